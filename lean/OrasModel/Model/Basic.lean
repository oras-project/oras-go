/-
  Shared basics for all models.  Core Lean only (the driver links against this).
-/
namespace Oras

/-- A descriptor key `(mediaType, digest, size)` abstracted to a number.  The harness
    numbers the distinct keys it uses; `descriptor.FromOCI` is the Go counterpart. -/
abbrev Key := Nat

/-- Point update of a total function (the model of a Go `map` assignment). -/
def fupd {β : Type} (f : Key → β) (k : Key) (v : β) : Key → β :=
  fun x => if x = k then v else f x

@[simp] theorem fupd_same {β : Type} (f : Key → β) (k : Key) (v : β) : fupd f k v k = v := by
  simp [fupd]

@[simp] theorem fupd_other {β : Type} (f : Key → β) (k x : Key) (v : β) (h : x ≠ k) :
    fupd f k v x = f x := by
  simp [fupd, h]

theorem fupd_forall {β : Type} {P : Key → β → Prop} {f : Key → β} {k : Key} {v : β}
    (hf : ∀ x, P x (f x)) (hv : P k v) (x : Key) : P x (fupd f k v x) := by
  unfold fupd
  split
  · next e => exact e ▸ hv
  · exact hf x

/-- Duplicate-free version of a list, keeping last occurrences (a Go `set.Set` built by
    `Add`ing every element; order is irrelevant to all users, results are sorted before
    being compared with the implementation). -/
def dedup : List Key → List Key
  | [] => []
  | x :: xs => if x ∈ xs then dedup xs else x :: dedup xs

@[simp] theorem mem_dedup (x : Key) (l : List Key) : x ∈ dedup l ↔ x ∈ l := by
  induction l with
  | nil => rfl
  | cons y ys ih =>
    unfold dedup
    split <;> simp only [ih, List.mem_cons]
    exact ⟨Or.inr, fun h => h.elim (· ▸ ‹y ∈ ys›) id⟩

theorem nodup_dedup (l : List Key) : (dedup l).Nodup := by
  induction l with
  | nil => exact List.nodup_nil
  | cons y ys ih =>
    unfold dedup
    split
    · exact ih
    · exact List.nodup_cons.mpr ⟨by rwa [mem_dedup], ih⟩

/-- Insertion into a duplicate-free list used as a set. -/
def sinsert (x : Key) (l : List Key) : List Key := if x ∈ l then l else l ++ [x]

@[simp] theorem mem_sinsert (x y : Key) (l : List Key) : y ∈ sinsert x l ↔ y = x ∨ y ∈ l := by
  unfold sinsert
  split
  · exact ⟨Or.inr, fun h => h.elim (· ▸ ‹x ∈ l›) id⟩
  · simp only [List.mem_append, List.mem_singleton, or_comm]

theorem nodup_sinsert (x : Key) (l : List Key) (h : l.Nodup) : (sinsert x l).Nodup := by
  unfold sinsert
  split
  · exact h
  · rename_i hx
    exact List.nodup_append.mpr ⟨h, by simp, fun a ha b hb => by
      rw [List.mem_singleton.mp hb]; exact fun e => hx (e ▸ ha)⟩

/-- Insertion sort on naturals, used to canonicalise set-valued answers. -/
def insertSorted (x : Nat) : List Nat → List Nat
  | [] => [x]
  | y :: ys => if x ≤ y then x :: y :: ys else y :: insertSorted x ys

def sortNat (l : List Nat) : List Nat := l.foldr insertSorted []

end Oras
