/-
  Reopening a layout (`loadIndex`, C07/C08), the ingredients.  For the resolver: what a reference
  resolves to after a fold of steps that set it or leave it alone, and what `saveIndex` writes.
  For the graph: it is `IndexAll` from the entries of `index.json`, one after the other, and every
  edge this records is real.
-/
import OrasModel.Proofs.Oci
import OrasModel.Proofs.IndexAll
namespace Oras
namespace OciSt

abbrev IdxEntry := Node × Option Nat × Nat

def provides (e : IdxEntry) (k : RefKey) : Bool :=
  match k with
  | .dig n => n == e.1
  | .tag nm => some nm == e.2.1

/-- One iteration of `loadIndex`'s loop. -/
def applyEntry (c : OciCfg) (blobs : List Node) (fuel : Nat) (s : OciSt) (e : IdxEntry) : OciSt :=
  let s1 := s.resolverTag e.1 e.2.2 (.dig e.1)
  let s2 := match e.2.1 with | some nm => s1.resolverTag e.1 e.2.2 (.tag nm) | none => s1
  { s2 with graph := GMem.indexAll (succOf c blobs) fuel s2.graph e.1 }

theorem loadIndex_eq_foldl (c : OciCfg) (st : OciSt) (fuel : Nat) :
    st.loadIndex c fuel = st.indexFile.foldl (applyEntry c st.blobs fuel) st := rfl

theorem lookup_applyEntry (c : OciCfg) (blobs : List Node) (fuel : Nat) (s : OciSt) (e : IdxEntry)
    (k : RefKey) :
    (applyEntry c blobs fuel s e).lookupRef k =
      if provides e k then some (e.1, e.2.2) else s.lookupRef k := by
  obtain ⟨n, name, ann⟩ := e
  show (match name with
    | some nm => (s.resolverTag n ann (.dig n)).resolverTag n ann (.tag nm)
    | none => s.resolverTag n ann (.dig n)).lookupRef k = _
  cases name <;> cases k <;> simp [lookupRef_resolverTag, provides]

theorem graph_applyEntry (c : OciCfg) (blobs : List Node) (fuel : Nat) (s : OciSt) (e : IdxEntry) :
    (applyEntry c blobs fuel s e).graph = GMem.indexAll (succOf c blobs) fuel s.graph e.1 := by
  obtain ⟨n, _ | _, a⟩ := e <;> rfl

/-- The steps: the entries of `index.json` when it is loaded, the tagged entries when `gcIndex`
    rebuilds the resolver. -/
theorem lookup_foldl {ε : Type} (f : OciSt → ε → OciSt) (k : RefKey) (sets : ε → Prop)
    [DecidablePred sets] (val : ε → Node × Nat)
    (hf : ∀ s e, (f s e).lookupRef k = if sets e then some (val e) else s.lookupRef k)
    (P : Option (Node × Nat) → Prop) (L : List ε) (s : OciSt)
    (hp : ∀ e ∈ L, sets e → P (some (val e)))
    (h0 : (∀ e ∈ L, ¬ sets e) → P (s.lookupRef k)) :
    P ((L.foldl f s).lookupRef k) := by
  induction L generalizing s with
  | nil => exact h0 nofun
  | cons x xs ih =>
    refine ih _ (fun e he => hp e (List.mem_cons_of_mem _ he)) fun hxs => ?_
    rw [hf]
    split
    · exact hp x List.mem_cons_self ‹_›
    · exact h0 (List.forall_mem_cons.mpr ⟨‹_›, hxs⟩)

theorem lookup_foldl_applyEntry (c : OciCfg) (blobs : List Node) (fuel : Nat) (k : RefKey)
    (P : Option (Node × Nat) → Prop) (L : List IdxEntry) (s : OciSt)
    (hp : ∀ e ∈ L, provides e k = true → P (some (e.1, e.2.2)))
    (h0 : (∀ e ∈ L, provides e k = false) → P (s.lookupRef k)) :
    P ((L.foldl (applyEntry c blobs fuel) s).lookupRef k) :=
  lookup_foldl _ k (provides · k = true) (fun e => (e.1, e.2.2)) (fun s e => lookup_applyEntry c blobs fuel s e k)
    P L s hp fun h => h0 fun e he => Bool.not_eq_true _ ▸ h e he

theorem graph_foldl {ε : Type} (f : OciSt → ε → OciSt) (succOf : Node → Option (List Node)) (fuel : Nat)
    (root : ε → Node) (hf : ∀ s e, (f s e).graph = GMem.indexAll succOf fuel s.graph (root e))
    (L : List ε) (s : OciSt) :
    (L.foldl f s).graph = GMem.indexRoots succOf fuel (L.map root) s.graph := by
  unfold GMem.indexRoots
  rw [List.foldl_map]
  exact (List.foldl_hom OciSt.graph fun s e => (hf s e).symm).symm

theorem mem_project (st : OciSt) (e : IdxEntry) :
    e ∈ st.project ↔
      ((∃ nm, (RefKey.tag nm, e.1, e.2.2) ∈ st.refs ∧ e.2.1 = some nm) ∨
       (e.2.1 = none ∧ (∃ m, (RefKey.dig m, e.1, e.2.2) ∈ st.refs) ∧
         ∀ nm a, (RefKey.tag nm, e.1, a) ∉ st.refs)) := by
  unfold project
  rw [List.mem_append]
  -- `N`: the entries written for names, which the nameless entries are checked against
  generalize hN : List.filterMap _ st.refs = N
  have named : ∀ y : IdxEntry, y ∈ N ↔ ∃ nm, (RefKey.tag nm, y.1, y.2.2) ∈ st.refs ∧ y.2.1 = some nm := by
    intro y
    rw [← hN, List.mem_filterMap]
    constructor
    · rintro ⟨⟨_ | _, m, a⟩, hx, hxe⟩ <;> cases hxe
      exact ⟨_, hx, rfl⟩
    · rintro ⟨nm, hin, hname⟩
      exact ⟨(.tag nm, y.1, y.2.2), hin, by dsimp only; rw [← hname]⟩
  rw [named, List.mem_filterMap]
  refine or_congr_right ⟨?_, ?_⟩
  · rintro ⟨⟨_ | d, m, a⟩, hx, hxe⟩
    · cases hxe
    · dsimp only at hxe
      split at hxe
      · cases hxe
      · next hnot =>
        cases hxe
        refine ⟨rfl, ⟨d, hx⟩, fun nm a' hin => hnot (List.contains_iff_mem.mpr ?_)⟩
        exact List.mem_map.mpr ⟨(m, some nm, a'), (named _).mpr ⟨nm, hin, rfl⟩, rfl⟩
  · rintro ⟨hname, ⟨m, hin⟩, hnone⟩
    refine ⟨(.dig m, e.1, e.2.2), hin, ?_⟩
    dsimp only
    split
    · next hc =>
      obtain ⟨y, hy, hy1⟩ := List.mem_map.mp (List.contains_iff_mem.mp hc)
      obtain ⟨nm, hin', -⟩ := (named y).mp hy
      exact absurd (hy1 ▸ hin') (hnone nm _)
    · rw [← hname]

theorem loadIndex_graph (c : OciCfg) (st : OciSt) (fuel : Nat) :
    (st.loadIndex c fuel).graph =
      GMem.indexRoots (succOf c st.blobs) fuel (st.indexFile.map (·.1)) st.graph :=
  graph_foldl (applyEntry c st.blobs fuel) _ fuel (·.1) (graph_applyEntry c st.blobs fuel) st.indexFile st

/-- Only the stored manifests have links, so a rank need only fall along those. -/
theorem rankOK_succOf (c : OciCfg) (blobs : List Node) (rk : Node → Nat)
    (h : ∀ n ∈ blobs, c.isMan n = true → ∀ k ∈ c.succ n, rk k < rk n) : GMem.RankOK (succOf c blobs) rk := by
  intro n ss hs k hk
  rcases (succOf_eq_some ..).mp hs with ⟨hm, hb, rfl⟩ | ⟨_, rfl⟩
  · exact h n hb hm k hk
  · cases hk

def EdgesSound (c : OciCfg) (blobs : List Node) (g : GMem) : Prop :=
  ∀ k p, p ∈ g.preds k → c.isMan p = true ∧ p ∈ blobs ∧ k ∈ c.succ p

theorem edgesSound_index (c : OciCfg) (blobs : List Node) (g : GMem) (n : Key) (ss : List Key)
    (hs : succOf c blobs n = some ss) (h : EdgesSound c blobs g) : EdgesSound c blobs (g.index n ss) := by
  intro k p hp
  rcases (GMem.mem_preds_index ..).mp hp with ⟨rfl, hk⟩ | hp
  · rcases (succOf_eq_some ..).mp hs with ⟨hm, hb, rfl⟩ | ⟨_, rfl⟩
    · exact ⟨hm, hb, hk⟩
    · cases hk
  · exact h k p hp

end OciSt
end Oras
