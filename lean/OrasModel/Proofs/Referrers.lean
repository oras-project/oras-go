/-
  What the functions of `Model/Referrers.lean` do.  `dedupRefs` and `applyChange` keep the working
  list of `applyReferrerChanges` without a key twice and without an empty entry (`Clean`); this
  much is in the namespace of `Props/C14.lean`, which states its first property with `NoDupKeys`
  and `NoEmpty`.  Then, in `Oras`: how a change, a batch and `dedupRefs` act on the presence of a
  single key (`hasKey`), and by pigeonhole that "no update needed" leaves every key as it was.
-/
import OrasModel.Model.Referrers
namespace Oras.Props.C14
open Oras

def NoDupKeys (l : List RDesc) : Prop := (l.map (·.key)).Nodup
def NoEmpty (l : List RDesc) : Prop := ∀ r ∈ l, r.key ≠ 0

def Clean (l : List RDesc) : Prop := NoDupKeys l ∧ NoEmpty l

/-- The one step by which both `dedupRefs` and an `add` grow a list. -/
theorem clean_snoc {l : List RDesc} {r : RDesc} (h : Clean l) (hr : r.key ≠ 0) (hf : l.any (·.key = r.key) = false) :
    Clean (l ++ [r]) := by
  constructor
  · unfold NoDupKeys
    rw [List.map_append, List.nodup_append]
    refine ⟨h.1, by simp, fun a ha b hb => ?_⟩
    obtain ⟨x, hx, rfl⟩ := List.mem_map.mp ha
    rw [List.mem_singleton.mp hb]
    intro e
    exact Bool.eq_false_iff.mp hf (List.any_eq_true.mpr ⟨x, hx, decide_eq_true e⟩)
  · intro x hx
    rcases List.mem_append.mp hx with hx | hx
    · exact h.2 x hx
    · rw [List.mem_singleton.mp hx]; exact hr

theorem dedupRefs_inv (acc rs : List RDesc) (h : Clean acc) : Clean (dedupRefs acc rs) := by
  induction rs generalizing acc with
  | nil => exact h
  | cons r rs ih =>
    unfold dedupRefs
    split
    · exact ih acc h
    · rename_i hc
      rw [not_or, Bool.not_eq_true] at hc
      exact ih _ (clean_snoc h hc.1 hc.2)

theorem applyChange_inv (cur : List RDesc) (c : RChange) (h : Clean cur)
    (hc : match c with | .add d => d.key ≠ 0 | .remove _ => True) : Clean (applyChange cur c) := by
  cases c with
  | add d =>
    simp only [applyChange]
    split
    · exact h
    · exact clean_snoc h hc (Bool.eq_false_iff.mpr ‹_›)
  | remove d =>
    exact ⟨List.Nodup.sublist (List.Sublist.map _ List.filter_sublist) h.1,
      fun x hx => h.2 x (List.mem_filter.mp hx).1⟩

theorem applyReferrerChanges_some {refs : List RDesc} {changes : List RChange} {res : List RDesc}
    (h : applyReferrerChanges refs changes = some res) :
    res = changes.foldl applyChange (dedupRefs [] refs) := by
  unfold applyReferrerChanges at h
  simp only at h
  split at h
  · cases h
  · exact (Option.some.inj h).symm

/-- `errNoReferrerUpdate` is the answer when nothing was skipped, the length is the old one and
    every old key is still listed. -/
theorem applyReferrerChanges_eq_none {refs : List RDesc} {changes : List RChange} :
    applyReferrerChanges refs changes = none ↔
      (dedupRefs [] refs).length = refs.length ∧
      (changes.foldl applyChange (dedupRefs [] refs)).length = refs.length ∧
      ∀ r ∈ refs, (changes.foldl applyChange (dedupRefs [] refs)).any (·.key = r.key) = true := by
  simp [applyReferrerChanges]

end Oras.Props.C14

namespace Oras
open Props.C14

abbrev hasKey (l : List RDesc) (k : Nat) : Bool := l.any (·.key = k)

theorem hasKey_iff (l : List RDesc) (k : Nat) : hasKey l k = true ↔ k ∈ l.map (·.key) := by
  simp only [hasKey, List.any_eq_true, decide_eq_true_eq, List.mem_map]

/-- The descriptor a change names (Go: `referrerChange.referrer`) … -/
def RChange.desc : RChange → RDesc
  | .add d | .remove d => d

/-- … and whether it adds it (`referrerChange.operation`). -/
def RChange.isAdd : RChange → Bool
  | .add _ => true
  | .remove _ => false

theorem hasKey_applyChange (cur : List RDesc) (c : RChange) (k : Nat) :
    hasKey (applyChange cur c) k = if k = c.desc.key then c.isAdd else hasKey cur k := by
  cases c with
  | add d =>
    show hasKey (if cur.any (·.key = d.key) then cur else cur ++ [d]) k = if k = d.key then true else hasKey cur k
    by_cases e : k = d.key
    · -- `d.key` was listed, or is so now
      rw [if_pos e, e]
      split
      · assumption
      · simp
    · rw [if_neg e]
      split
      · rfl
      · simp [Ne.symm e]
  | remove d =>
    show hasKey (cur.filter (·.key ≠ d.key)) k = if k = d.key then false else hasKey cur k
    rw [hasKey, List.any_filter]
    by_cases e : k = d.key
    · simp [e]
    · -- an entry with another key than `d.key` is not filtered out
      rw [if_neg e]
      congr 1
      funext x
      by_cases hx : x.key = k
      · simp [hx, e]
      · simp [hx]

theorem hasKey_foldl (k : Nat) (v : Bool) (cs : List RChange) (cur : List RDesc)
    (hv : ∀ c ∈ cs, c.desc.key = k → c.isAdd = v)
    (h : hasKey cur k = v ∨ ∃ c ∈ cs, c.desc.key = k) :
    hasKey (cs.foldl applyChange cur) k = v := by
  induction cs generalizing cur with
  | nil => simpa using h
  | cons c cs ih =>
    refine ih _ (fun c' hc' => hv c' (List.mem_cons_of_mem _ hc')) ?_
    rw [hasKey_applyChange]
    by_cases e : k = c.desc.key
    · exact .inl (by rw [if_pos e]; exact hv c List.mem_cons_self e.symm)
    · rw [if_neg e]
      refine h.imp id fun ⟨c', hc', hk⟩ => ⟨c', ?_, hk⟩
      rcases List.mem_cons.mp hc' with rfl | hc'
      · exact absurd hk.symm e
      · exact hc'

/-- Key 0 is that of the empty descriptor, which `dedupRefs` drops: whoever claims that a key is
    listed afterwards has to know that it is not 0. -/
theorem hasKey_dedupRefs (k : Nat) (rs acc : List RDesc) :
    hasKey (dedupRefs acc rs) k = (hasKey acc k || (k != 0 && hasKey rs k)) := by
  induction rs generalizing acc with
  | nil => simp [dedupRefs]
  | cons r rs ih =>
    unfold dedupRefs
    split <;> rename_i hc
    · rw [ih]
      by_cases e : r.key = k
      · subst e
        rcases hc with hc | hc
        · simp [hc]
        · have : hasKey acc r.key = true := hc
          simp [this]
      · simp [e]
    · rw [ih]
      simp only [not_or] at hc
      by_cases e : r.key = k
      · subst e; simp [hc.1]
      · simp [e]

theorem subset_of_nodup_length {A B : List Nat} (hB : B.Nodup) (hsub : B ⊆ A)
    (hlen : A.length = B.length) : A ⊆ B := by
  intro x hx
  apply Decidable.byContradiction
  intro hxB
  -- otherwise `B` fits into `A` without `x`, which is shorter
  have : B ⊆ A.erase x := fun y hy => (List.mem_erase_of_ne (fun e : y = x => hxB (e ▸ hy))).mpr (hsub hy)
  have := hB.length_le_of_subset this
  rw [List.length_erase_of_mem hx] at this
  have := List.length_pos_of_mem hx
  omega

/-- Every old key is still there (that is checked), and by counting there is no other. -/
theorem hasKey_no_update (refs : List RDesc) (cs : List RChange) (h : applyReferrerChanges refs cs = none) (k : Nat) :
    hasKey (cs.foldl applyChange (dedupRefs [] refs)) k = hasKey refs k := by
  obtain ⟨h1, h2, h3⟩ := applyReferrerChanges_eq_none.mp h
  have keeps : ∀ x, hasKey refs x = true → hasKey (cs.foldl applyChange (dedupRefs [] refs)) x = true := fun x hx => by
    obtain ⟨r, hr, hrk⟩ := List.any_eq_true.mp hx
    rw [← of_decide_eq_true hrk]; exact h3 r hr
  have ofDedup : ∀ x, x ∈ (dedupRefs [] refs).map (·.key) → hasKey refs x = true := fun x hx => by
    have := (hasKey_iff _ x).mpr hx
    rw [hasKey_dedupRefs, hasKey, List.any_nil, Bool.false_or, Bool.and_eq_true] at this
    exact this.2
  refine Bool.eq_iff_iff.mpr ⟨fun hk => ofDedup k ?_, keeps k⟩
  refine subset_of_nodup_length (dedupRefs_inv [] refs ⟨List.nodup_nil, nofun⟩).1
    (fun x hx => (hasKey_iff _ x).mp (keeps x (ofDedup x hx))) ?_ ((hasKey_iff _ k).mp hk)
  rw [List.length_map, List.length_map, h1, h2]

end Oras
