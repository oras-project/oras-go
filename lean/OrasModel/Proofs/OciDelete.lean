/- The invariants of the resolver (`resolver.Memory`) under `Tag` and `Untag`, and `Store.delete`
   of the OCI store model in one equation (C09). -/
import OrasModel.Proofs.Oci
namespace Oras

namespace OciSt

/-- Every reference recorded for a node is in that node's tag set (`resolver.Memory`
    keeps `tags[digest]` a superset of the live references; stale names only add). -/
def RefTagInv (st : OciSt) : Prop := ∀ e ∈ st.refs, e.1 ∈ st.tagsOf e.2.1

def RefUniq (st : OciSt) : Prop := (st.refs.map (·.1)).Nodup

theorem mem_of_lookup (st : OciSt) (k : RefKey) (v : Node × Nat) (h : st.lookupRef k = some v) :
    (k, v) ∈ st.refs :=
  assoc_mem_of_find h

theorem lookup_of_mem (st : OciSt) (hu : RefUniq st) (k : RefKey) (v : Node × Nat)
    (h : (k, v) ∈ st.refs) : st.lookupRef k = some v :=
  assoc_find_of_mem hu h

theorem refUniq_resolverTag (st : OciSt) (n : Node) (a : Nat) (k : RefKey) (hu : RefUniq st) :
    RefUniq (st.resolverTag n a k) := by
  refine List.nodup_cons.mpr ⟨fun hin => ?_, hu.sublist (List.filter_sublist.map _)⟩
  obtain ⟨x, hx, hxk⟩ := List.mem_map.mp hin
  simpa [hxk] using (List.mem_filter.mp hx).2

theorem dropOld_eq (st : OciSt) (n : Node) (k : RefKey) (m : Node) :
    st.dropOld n k m =
      if (st.lookupRef k).map (·.1) = some m ∧ m ≠ n then (st.tagsOf m).erase k else st.tagsOf m := by
  unfold dropOld
  split
  · next m' a h =>
    by_cases hm : m = m'
    · subst hm; by_cases hn : m = n <;> simp [h, hn]
    · simp [h, hm, Ne.symm hm]
  · next h => simp [h]

theorem refTagInv_resolverUntag (st : OciSt) (k : RefKey) (h : RefTagInv st) :
    RefTagInv (st.resolverUntag k) := by
  intro e he
  rw [refs_resolverUntag] at he
  obtain ⟨he1, he2⟩ := List.mem_filter.mp he
  rw [tagsOf_resolverUntag]
  split
  · exact (List.mem_erase_of_ne (by simpa using he2)).mpr (h e he1)
  · exact h e he1

theorem tagsOf_resolverTag (st : OciSt) (n : Node) (a : Nat) (k : RefKey) (m : Node) :
    (st.resolverTag n a k).tagsOf m =
      if m = n then (if k ∈ st.tagsOf n then st.tagsOf n else st.tagsOf n ++ [k])
      else (st.resolverUntag k).tagsOf m := by
  show (if m = n then _ else st.dropOld n k m) = _
  rw [tagsOf_resolverUntag]
  by_cases hm : m = n
  · have : st.dropOld n k n = st.tagsOf n := by rw [dropOld_eq, if_neg fun h => h.2 rfl]
    rw [if_pos hm, if_pos hm, this]
  · rw [if_neg hm, if_neg hm, dropOld_eq]
    simp only [ne_eq, hm, not_false_eq_true, and_true]

theorem mem_insertTag {k k' : RefKey} {t : List RefKey} :
    k' ∈ (if k ∈ t then t else t ++ [k]) ↔ k' = k ∨ k' ∈ t := by
  split
  · next h => exact ⟨Or.inr, fun h' => h'.elim (· ▸ h) id⟩
  · simp [or_comm]

theorem refTagInv_resolverTag (st : OciSt) (n : Node) (a : Nat) (k : RefKey) (h : RefTagInv st) :
    RefTagInv (st.resolverTag n a k) := by
  intro e he
  rw [tagsOf_resolverTag]
  rcases List.mem_cons.mp he with rfl | he
  · rw [if_pos rfl]; exact mem_insertTag.mpr (.inl rfl)
  · split
    · next hn => exact mem_insertTag.mpr (.inr (hn ▸ h e (List.mem_filter.mp he).1))
    · exact refTagInv_resolverUntag st k h e (refs_resolverUntag st k ▸ he)

/-- The store after `Store.delete` untagged every reference to `n` (`oci.go:204-210`). -/
def untagAll (st : OciSt) (n : Node) : OciSt :=
  (st.refs.filter (fun e => e.2.1 = n)).foldl (fun s e => s.resolverUntag e.1) st

theorem untagAll_induct {P : OciSt → Prop} (st : OciSt) (n : Node) (h0 : P st)
    (hstep : ∀ s e, e ∈ st.refs → e.2.1 = n → P s → P (s.resolverUntag e.1)) : P (st.untagAll n) :=
  List.foldlRecOn _ _ h0 fun s hs e he =>
    hstep s e (List.mem_filter.mp he).1 (of_decide_eq_true (List.mem_filter.mp he).2) hs

theorem untagAll_frame (st : OciSt) (n : Node) :
    ∃ r t, st.untagAll n = { st with refs := r, tagsOf := t } := by
  refine untagAll_induct (P := fun s => ∃ r t, s = { st with refs := r, tagsOf := t }) st n
    ⟨st.refs, st.tagsOf, rfl⟩ ?_
  rintro s e _ _ ⟨r, t, rfl⟩
  exact ⟨_, _, resolverUntag_eq _ _⟩

/-- `Store.delete` in one equation; `i` is `index.json`, rewritten or not. -/
theorem deleteOne_eq (st : OciSt) (n : Node) :
    ∃ i, st.deleteOne n =
      ({ st with refs := (st.untagAll n).refs, tagsOf := (st.untagAll n).tagsOf,
                 graph := (st.graph.remove n).1, blobs := st.blobs.erase n, indexFile := i },
       if n ∈ st.blobs then .ok (st.graph.remove n).2 else .error .notFound) := by
  obtain ⟨r, t, h⟩ := untagAll_frame st n
  unfold deleteOne
  simp only
  rw [show (st.refs.filter (fun e => e.2.1 = n)).foldl (fun s e => s.resolverUntag e.1) st =
    st.untagAll n from rfl, h]
  simp only [saveIndex]
  by_cases hn : n ∈ st.blobs
  · simp only [hn, if_true]
    split <;> exact ⟨_, rfl⟩
  · simp only [hn, if_false, List.erase_of_not_mem hn]
    split <;> exact ⟨_, rfl⟩

theorem deleteOne_snd (st : OciSt) (n : Node) :
    (st.deleteOne n).2 = if n ∈ st.blobs then .ok (st.graph.remove n).2 else .error .notFound := by
  obtain ⟨i, h⟩ := deleteOne_eq st n; rw [h]

@[simp] theorem blobs_deleteOne (st : OciSt) (n : Node) : (st.deleteOne n).1.blobs = st.blobs.erase n := by
  obtain ⟨i, h⟩ := deleteOne_eq st n; rw [h]

@[simp] theorem graph_deleteOne (st : OciSt) (n : Node) :
    (st.deleteOne n).1.graph = (st.graph.remove n).1 := by
  obtain ⟨i, h⟩ := deleteOne_eq st n; rw [h]

@[simp] theorem autoGC_deleteOne (st : OciSt) (n : Node) : (st.deleteOne n).1.autoGC = st.autoGC := by
  obtain ⟨i, h⟩ := deleteOne_eq st n; rw [h]

theorem refs_deleteOne (st : OciSt) (n : Node) : (st.deleteOne n).1.refs = (st.untagAll n).refs := by
  obtain ⟨i, h⟩ := deleteOne_eq st n; rw [h]

theorem tagsOf_deleteOne (st : OciSt) (n : Node) :
    (st.deleteOne n).1.tagsOf = (st.untagAll n).tagsOf := by
  obtain ⟨i, h⟩ := deleteOne_eq st n; rw [h]

theorem refs_deleteOne_sublist (st : OciSt) (n : Node) : (st.deleteOne n).1.refs.Sublist st.refs := by
  rw [refs_deleteOne]
  refine untagAll_induct (P := fun s => s.refs.Sublist st.refs) st n (.refl _) fun s e _ _ hs => ?_
  rw [refs_resolverUntag]
  exact List.filter_sublist.trans hs

theorem refUniq_deleteOne (st : OciSt) (n : Node) (hu : RefUniq st) : RefUniq (st.deleteOne n).1 :=
  hu.sublist ((refs_deleteOne_sublist st n).map _)

theorem refTagInv_deleteOne (st : OciSt) (n : Node) (hi : RefTagInv st) :
    RefTagInv (st.deleteOne n).1 := by
  unfold RefTagInv; rw [refs_deleteOne, tagsOf_deleteOne]
  exact untagAll_induct st n hi fun s e _ _ => refTagInv_resolverUntag s e.1

theorem lookupRef_foldl_untag (ks : List (RefKey × Node × Nat)) (st : OciSt) (k : RefKey) :
    (ks.foldl (fun s e => s.resolverUntag e.1) st).lookupRef k =
      if k ∈ ks.map (·.1) then none else st.lookupRef k := by
  induction ks generalizing st with
  | nil => rfl
  | cons e es ih =>
    rw [List.foldl_cons, ih, lookupRef_resolverUntag]
    by_cases h1 : k ∈ es.map (·.1)
    · simp [h1]
    · by_cases h2 : k = e.1 <;> simp [h1, h2]

theorem lookupRef_deleteOne (st : OciSt) (n : Node) (hu : RefUniq st) (k : RefKey) :
    (st.deleteOne n).1.lookupRef k = (st.lookupRef k).filter (fun v => v.1 ≠ n) := by
  unfold lookupRef; rw [refs_deleteOne]
  show (st.untagAll n).lookupRef k = (st.lookupRef k).filter _
  unfold untagAll
  rw [lookupRef_foldl_untag]
  have : k ∈ (st.refs.filter (fun e => e.2.1 = n)).map (·.1) ↔ ∃ v, st.lookupRef k = some v ∧ v.1 = n := by
    constructor
    · intro h
      obtain ⟨e, he, rfl⟩ := List.mem_map.mp h
      exact ⟨e.2, lookup_of_mem st hu e.1 e.2 (List.mem_filter.mp he).1, by simpa using (List.mem_filter.mp he).2⟩
    · rintro ⟨v, hl, hv⟩
      exact List.mem_map.mpr ⟨(k, v), List.mem_filter.mpr ⟨mem_of_lookup st k v hl, by simpa using hv⟩, rfl⟩
  cases hl : st.lookupRef k with
  | none => simp [this, hl]
  | some v => by_cases hv : v.1 = n <;> simp [this, hl, hv, Option.filter]

theorem tagsOf_deleteOne_of_ne (st : OciSt) (n x : Node) (hu : RefUniq st) (hx : x ≠ n) :
    (st.deleteOne n).1.tagsOf x = st.tagsOf x := by
  rw [tagsOf_deleteOne]
  -- what is left of the references is a part of `st.refs`, so the key of a reference to `n` still
  -- points to `n` when its turn comes, if it is there at all
  refine (untagAll_induct (P := fun s => s.refs.Sublist st.refs ∧ s.tagsOf x = st.tagsOf x) st n
    ⟨.refl _, rfl⟩ fun s e he hen ⟨hs, ht⟩ => ?_).2
  rw [refs_resolverUntag, tagsOf_resolverUntag, if_neg, ht]
  · exact ⟨List.filter_sublist.trans hs, rfl⟩
  · cases hl : s.lookupRef e.1 with
    | none => nofun
    | some v =>
      have h1 := lookup_of_mem st hu e.1 v (hs.subset (mem_of_lookup s _ _ hl))
      have h2 := lookup_of_mem st hu e.1 e.2 he
      have : v.1 = n := Option.some.inj (h1.symm.trans h2) ▸ hen
      simpa [this] using Ne.symm hx

end OciSt
end Oras
