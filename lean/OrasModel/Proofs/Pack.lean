/- What `pack` returns, said once: the three outcomes (`pack_outcome`), with the events of the
   config step, the manifest and the events of a successful run written out; and what
   `pushIfNotExist` leaves behind. -/
import OrasModel.Model.Pack
namespace Oras

def cfgEvs (i : PackIn) : List PackEv :=
  if i.config.isNone then inventBlob i .existsConfig .pushConfig else []

/-- The manifest of a successful run: the two records at the end of `pack`, with
    `invented` replaced by what the config step makes it. -/
def packOut (i : PackIn) : PackOut :=
  match i.ver with
  | .v10 => { configInvented := i.config.isNone, configTypeFromArtifactType := i.config.isNone,
              layerPlaceholder := false, hasSubject := false, artifactTypeSet := false,
              createdFilled := i.created = .absent }
  | .v11 => { configInvented := i.config.isNone, configTypeFromArtifactType := false,
              layerPlaceholder := i.layersEmpty, hasSubject := i.subject,
              artifactTypeSet := i.artifactType ≠ .empty, createdFilled := i.created = .absent }

/-- The events of a successful run, read off the manifest it produced. -/
def okEvs (i : PackIn) (o : PackOut) : List PackEv :=
  (if o.configInvented then inventBlob i .existsConfig .pushConfig else []) ++
  (if o.layerPlaceholder = true ∧ o.configInvented = false
    then inventBlob i .existsLayer .pushLayer else []) ++
  [.pushManifest]

theorem pack_outcome (i : PackIn) :
    (∃ e, pack i = ([], .error e)) ∨
    (i.created = .malformed ∧ pack i = (cfgEvs i, .error .invalidDateTime)) ∨
    (i.created ≠ .malformed ∧ pack i = (okEvs i (packOut i), .ok (packOut i))) := by
  fun_cases pack i
  case case3 cfgStep evs inv x hc | case8 cfgStep evs inv x hc
     | case4 cfgStep evs inv x hc | case9 cfgStep evs inv x hc _ =>
    -- the config step of either version succeeded, `x : cfgStep = .ok (evs, inv)`
    obtain ⟨rfl, rfl⟩ : evs = cfgEvs i ∧ inv = i.config.isNone := by
      unfold cfgEvs
      cases hcfg : i.config with
      | some c =>
        -- a given config is accepted if its media type is valid, and brings no event
        simp only [cfgStep, hcfg] at x
        split at x
        · cases x; exact ⟨rfl, rfl⟩
        · cases x
      | none =>
        -- the invented one: at once (version 1.1), or unless the artifact type is invalid (1.0)
        simp only [cfgStep, hcfg] at x
        first
        | cases x; exact ⟨rfl, rfl⟩
        | split at x
          · cases x
          · cases x; exact ⟨rfl, rfl⟩
    -- `hc` says that the date is malformed (cases 3 and 8) or that it is not (4 and 9)
    first
    | exact .inr (.inl ⟨hc, rfl⟩)
    | exact .inr (.inr ⟨hc, by simp +zetaDelta [okEvs, packOut, cfgEvs, *]⟩)
  all_goals exact .inl ⟨_, rfl⟩

theorem pack_ok {i : PackIn} {o : PackOut} (h : (pack i).2 = .ok o) :
    o = packOut i ∧ (pack i).1 = okEvs i (packOut i) := by
  rcases pack_outcome i with ⟨_, hp⟩ | ⟨_, hp⟩ | ⟨_, hp⟩
  · rw [hp] at h; cases h
  · rw [hp] at h; cases h
  · rw [hp] at h ⊢
    cases h
    exact ⟨rfl, rfl⟩

/-- `pushIfNotExist` leaves the blob in the target: pushed, or looked up and found. -/
theorem inventBlob_closure (i : PackIn) (ex push : PackEv) {evs : List PackEv}
    (h : ∀ e ∈ inventBlob i ex push, e ∈ evs) :
    push ∈ evs ∨ (ex ∈ evs ∧ i.emptyBlobPresent = true) := by
  unfold inventBlob at h
  split at h
  · split at h
    · exact .inr ⟨h _ List.mem_cons_self, ‹_›⟩
    · exact .inl (h _ (List.mem_cons_of_mem _ List.mem_cons_self))
  · exact .inl (h _ List.mem_cons_self)

theorem mem_inventBlob {i : PackIn} {ex push e : PackEv} (h : e ∈ inventBlob i ex push) :
    e = ex ∨ e = push := by
  unfold inventBlob at h
  split at h
  · split at h
    · exact .inl (List.mem_singleton.mp h)
    · simpa using h
  · exact .inr (List.mem_singleton.mp h)

end Oras
