/- Canonical (strictly sorted) lists are determined by their members; order facts for the
   byte-wise string order and the grant order (C16 scope sets). -/
import OrasModel.Model.Scopes
namespace Oras

structure StrictTotal {α : Type} (lt : α → α → Bool) : Prop where
  irrefl : ∀ a, lt a a = false
  trans : ∀ a b c, lt a b = true → lt b c = true → lt a c = true
  total : ∀ a b, a ≠ b → lt a b = true ∨ lt b a = true

section
variable {α : Type} {lt : α → α → Bool}

/-- strictly sorted -/
def SSorted (lt : α → α → Bool) : List α → Prop
  | [] => True
  | x :: xs => (∀ y ∈ xs, lt x y = true) ∧ SSorted lt xs

theorem ssorted_iff_pairwise {l : List α} : SSorted lt l ↔ l.Pairwise (lt · · = true) := by
  induction l with
  | nil => simp [SSorted]
  | cons x xs ih => rw [SSorted, List.pairwise_cons, ih]

theorem SSorted.nodup (st : StrictTotal lt) {l : List α} (h : SSorted lt l) : l.Nodup :=
  (ssorted_iff_pairwise.mp h).imp fun {a b} hab e => by rw [e, st.irrefl] at hab; cases hab

theorem ssorted_ext (st : StrictTotal lt) (l₁ l₂ : List α) (h₁ : SSorted lt l₁) (h₂ : SSorted lt l₂)
    (h : ∀ x, x ∈ l₁ ↔ x ∈ l₂) : l₁ = l₂ :=
  List.Perm.eq_of_pairwise
    (fun a b _ _ hab hba => by have := st.trans a b a hab hba; rw [st.irrefl] at this; cases this)
    (ssorted_iff_pairwise.mp h₁) (ssorted_iff_pairwise.mp h₂)
    ((List.perm_ext_iff_of_nodup (h₁.nodup st) (h₂.nodup st)).mpr h)

variable [DecidableEq α]

theorem mem_insertCanon (x y : α) (l : List α) : y ∈ insertCanon lt x l ↔ y = x ∨ y ∈ l := by
  fun_induction insertCanon lt x l with
  | case1 | case2 => simp
  | case3 => exact List.mem_cons
  | case4 z zs _ _ ih => rw [List.mem_cons, ih, List.mem_cons]; exact or_left_comm

theorem mem_canon (x : α) (l : List α) : x ∈ canon lt l ↔ x ∈ l := by
  induction l with
  | nil => simp [canon]
  | cons y ys ih => rw [canon, List.foldr_cons, mem_insertCanon, ← canon, ih, List.mem_cons]

theorem ssorted_insertCanon (st : StrictTotal lt) (x : α) (l : List α) (h : SSorted lt l) :
    SSorted lt (insertCanon lt x l) := by
  fun_induction insertCanon lt x l with
  | case1 => exact ⟨nofun, trivial⟩
  | case2 => exact h
  | case3 z zs _ hlt => exact ⟨List.forall_mem_cons.2 ⟨hlt, fun y hy => st.trans x z y hlt (h.1 y hy)⟩, h⟩
  | case4 z zs hxz hlt ih =>
    -- `x` goes in behind `z`: not equal and not below, so above
    refine ⟨fun y hy => ?_, ih h.2⟩
    rcases (mem_insertCanon x y zs).mp hy with rfl | hy
    · exact (st.total y z hxz).resolve_left hlt
    · exact h.1 y hy

theorem ssorted_canon (st : StrictTotal lt) (l : List α) : SSorted lt (canon lt l) := by
  induction l with
  | nil => trivial
  | cons y ys ih => exact ssorted_insertCanon st y _ ih

theorem canon_congr (st : StrictTotal lt) (l₁ l₂ : List α) (h : ∀ x, x ∈ l₁ ↔ x ∈ l₂) :
    canon lt l₁ = canon lt l₂ :=
  ssorted_ext st _ _ (ssorted_canon st l₁) (ssorted_canon st l₂)
    (fun x => by rw [mem_canon, mem_canon]; exact h x)

end

theorem strLt_iff_lt : ∀ (a b : Str), strLt a b = true ↔ a < b
  | [], [] => by simp [strLt]
  | [], _ :: _ => by simp [strLt]
  | _ :: _, [] => by simp [strLt]
  | x :: xs, y :: ys => by
    have hc : x.toNat < y.toNat ↔ x < y := by rw [Char.lt_def, UInt32.lt_iff_toNat_lt]; rfl
    simp only [strLt, List.cons_lt_cons_iff, ← strLt_iff_lt xs ys, hc]
    by_cases h : x < y <;> simp [h]

theorem StrictTotal.of_lt {α β : Type} {lt : α → α → Bool} [LE β] [LT β] [Std.IsLinearOrder β] [Std.LawfulOrderLT β]
    (f : α → β) (hf : ∀ a b, f a = f b → a = b) (h : ∀ a b, lt a b = true ↔ f a < f b) : StrictTotal lt where
  irrefl a := by simpa [← h] using Std.lt_irrefl (a := f a)
  trans a b c := by simpa only [h] using Std.lt_trans
  total a b hab := by simpa only [h, mt (hf a b) hab, false_or] using Std.lt_trichotomy (f a) (f b)

theorem strLt_strictTotal : StrictTotal strLt := .of_lt id (fun _ _ => id) strLt_iff_lt

theorem grantLt_iff_lt (a b : Grant) : grantLt a b = true ↔ [a.1, a.2.1, a.2.2] < [b.1, b.2.1, b.2.2] := by
  simp only [grantLt, List.cons_lt_cons_iff, List.not_lt_nil, and_false, or_false]
  by_cases h1 : a.1 = b.1 <;> by_cases h2 : a.2.1 = b.2.1 <;> simp [h1, h2, strLt_iff_lt, List.lt_irrefl]

theorem grantLt_strictTotal : StrictTotal grantLt :=
  .of_lt (fun g => [g.1, g.2.1, g.2.2]) (fun ⟨_, _, _⟩ ⟨_, _, _⟩ h => by cases h; rfl) grantLt_iff_lt

end Oras
