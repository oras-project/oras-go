/-
  The per-node copy system of `Model/Copy.lean` (C01, C02, C04). Every label of `step?` moves one
  node to one state and, for the two pushes, stores the node's key; labels differ in their guard.
  `Label.enabled` and `Label.effect` say this, `step?_eq_some` is their agreement with `step?`; what
  follows, here and in the files that import this one, rests on it and does not unfold `step?` again.
  Then the rules for `run?`, and the invariant `CopyInv` with its preservation.
-/
import OrasModel.Model.Copy
namespace Oras

def Label.node : Label → Node
  | .claim n | .existsT n | .existsF n | .ready n | .push n | .pushLate n | .fail n => n

def Label.target : Label → NSt
  | .claim _ => .claimed | .existsF _ => .waiting | .ready _ => .copying
  | .existsT _ | .push _ => .done | .pushLate _ | .fail _ => .failed

def Label.stores : Label → Bool
  | .push _ | .pushLate _ => true
  | _ => false

def Label.enabled (c : CopyCfg) (s : CopySt) : Label → Prop
  | .claim n => s.st n = .idle
  | .existsT n => s.st n = .claimed ∧ present c s n = true
  | .existsF n => s.st n = .claimed ∧ present c s n = false
  | .ready n => s.st n = .waiting ∧ ∀ k ∈ c.kids n, s.st k = .done
  | .push n | .pushLate n => s.st n = .copying
  | .fail n => s.st n = .claimed ∨ s.st n = .waiting ∨ s.st n = .copying

def Label.effect (c : CopyCfg) (s : CopySt) (l : Label) : CopySt :=
  ⟨fupd s.st l.node l.target, if l.stores then c.dkey l.node :: s.dst else s.dst⟩

theorem step?_eq_some {c : CopyCfg} {s s' : CopySt} {l : Label} :
    step? c s l = some s' ↔ l.enabled c s ∧ l.effect c s = s' := by
  cases l <;> simp [step?, Label.enabled, Label.effect, Label.node, Label.target, Label.stores]

theorem step_node {c : CopyCfg} {s s' : CopySt} {l : Label} (hs : step? c s l = some s') :
    s'.st l.node = l.target := by
  obtain ⟨_, rfl⟩ := step?_eq_some.mp hs
  exact fupd_same ..

theorem step_other {c : CopyCfg} {s s' : CopySt} {l : Label} (hs : step? c s l = some s') {m : Node}
    (h : m ≠ l.node) : s'.st m = s.st m := by
  obtain ⟨_, rfl⟩ := step?_eq_some.mp hs
  exact fupd_other _ _ _ _ h

theorem run?_cons {c : CopyCfg} {l : Label} {ls : List Label} {s t : CopySt} :
    run? c s (l :: ls) = some t ↔ ∃ s1, step? c s l = some s1 ∧ run? c s1 ls = some t := by
  rw [run?]
  cases step? c s l <;> simp

theorem run?_induction {c : CopyCfg} {t : CopySt} {motive : CopySt → List Label → Prop}
    (nil : motive t [])
    (cons : ∀ {s s1 l ls}, step? c s l = some s1 → run? c s1 ls = some t → motive s1 ls → motive s (l :: ls))
    {s : CopySt} {ls : List Label} (hr : run? c s ls = some t) : motive s ls := by
  induction ls generalizing s with
  | nil => cases hr; exact nil
  | cons l ls ih =>
    obtain ⟨s1, hs, hr⟩ := run?_cons.mp hr
    exact cons hs hr (ih hr)

theorem run?_invariant {c : CopyCfg} (P : CopySt → Prop)
    (step : ∀ {s s1 l}, step? c s l = some s1 → P s → P s1)
    {s t : CopySt} {ls : List Label} (hr : run? c s ls = some t) : P s → P t :=
  run?_induction (motive := fun s _ => P s → P t) id (fun hs _ ih h => ih (step hs h)) hr

theorem run?_append {c : CopyCfg} {a b : List Label} {s t : CopySt} :
    run? c s (a ++ b) = some t ↔ ∃ s1, run? c s a = some s1 ∧ run? c s1 b = some t := by
  induction a generalizing s with
  | nil => simp [run?]
  | cons l a ih =>
    simp only [List.cons_append, run?_cons, ih, ← exists_and_left, ← exists_and_right, and_assoc]
    exact exists_comm

theorem run?_concat {c : CopyCfg} {pre : List Label} {l : Label} {s t : CopySt} :
    run? c s (pre ++ [l]) = some t ↔ ∃ s1, run? c s pre = some s1 ∧ step? c s1 l = some t := by
  simp only [run?_append, run?_cons]
  simp [run?]

/-- Key consistency: nodes the destination cannot tell apart have the same successor keys.
    Trivial when `dkey` is injective (key-addressed destinations). -/
def KeyCons (c : CopyCfg) : Prop :=
  ∀ m n, c.dkey m = c.dkey n → ∀ k ∈ c.kids n, ∃ k' ∈ c.kids m, c.dkey k' = c.dkey k

/-- A key set is closed under links. -/
def ClosedKeys (c : CopyCfg) (dst : List Nat) : Prop :=
  ∀ n, dst.contains (c.dkey n) = true → ∀ k ∈ c.kids n, dst.contains (c.dkey k) = true

structure CopyInv (c : CopyCfg) (s : CopySt) : Prop where
  closed : ClosedKeys c s.dst
  done_present : ∀ n, s.st n = .done → present c s n = true
  copying_ready : ∀ n, s.st n = .copying → ∀ k ∈ c.kids n, present c s k = true

theorem contains_cons_mono (x y : Nat) (l : List Nat) (h : l.contains x = true) :
    (y :: l).contains x = true := by
  simp only [List.contains_cons, h, Bool.or_true]

theorem dst_mono_step {c : CopyCfg} {s s' : CopySt} {l : Label} (hs : step? c s l = some s')
    (x : Nat) (hx : s.dst.contains x = true) : s'.dst.contains x = true := by
  obtain ⟨_, rfl⟩ := step?_eq_some.mp hs
  unfold Label.effect
  split
  · exact contains_cons_mono _ _ _ hx
  · exact hx

/-- By key consistency the successors of a node the destination cannot tell from `n` have keys of
    successors of `n`. -/
theorem closedKeys_cons {c : CopyCfg} (hk : KeyCons c) {dst : List Nat} (h : ClosedKeys c dst) (n : Node)
    (hn : ∀ k ∈ c.kids n, dst.contains (c.dkey k) = true) : ClosedKeys c (c.dkey n :: dst) := by
  intro x hx k hkk
  apply contains_cons_mono
  simp only [List.contains_cons, Bool.or_eq_true, beq_iff_eq] at hx
  rcases hx with hx | hx
  · obtain ⟨k', hk'1, hk'2⟩ := hk n x hx.symm k hkk
    exact hk'2 ▸ hn k' hk'1
  · exact h x hx k hkk

/-- What the invariant asks of `done` and `copying` nodes has to be shown for the moved node only. -/
theorem CopyInv.update {c : CopyCfg} {s : CopySt} (h : CopyInv c s) (n : Node) (v : NSt) {dst' : List Nat}
    (hsub : ∀ x, s.dst.contains x = true → dst'.contains x = true) (hcl : ClosedKeys c dst')
    (hd : v = .done → dst'.contains (c.dkey n) = true)
    (hc : v = .copying → ∀ k ∈ c.kids n, dst'.contains (c.dkey k) = true) :
    CopyInv c ⟨fupd s.st n v, dst'⟩ :=
  ⟨hcl,
    fupd_forall (P := fun m (w : NSt) => w = .done → dst'.contains (c.dkey m) = true)
      (fun m hm => hsub _ (h.done_present m hm)) hd,
    fupd_forall (P := fun m (w : NSt) => w = .copying → ∀ k ∈ c.kids m, dst'.contains (c.dkey k) = true)
      (fun m hm k hk => hsub _ (h.copying_ready m hm k hk)) hc⟩

theorem copyInv_step {c : CopyCfg} (hk : KeyCons c) {s s' : CopySt} {l : Label}
    (hs : step? c s l = some s') (h : CopyInv c s) : CopyInv c s' := by
  obtain ⟨he, rfl⟩ := step?_eq_some.mp hs
  cases l with
  -- the invariant asks nothing of a `claimed`, `waiting` or `failed` node
  | claim n | existsF n | fail n => exact h.update n _ (fun _ => id) h.closed nofun nofun
  | existsT n => exact h.update n .done (fun _ => id) h.closed (fun _ => he.2) nofun
  | ready n =>
    -- the successors are done, hence present
    exact h.update n .copying (fun _ => id) h.closed nofun fun _ k hk => h.done_present k (he.2 k hk)
  | push n =>
    exact h.update n .done (dst' := c.dkey n :: s.dst) (contains_cons_mono · _ _)
      (closedKeys_cons hk h.closed n (h.copying_ready n he)) (fun _ => by simp) nofun
  | pushLate n =>
    exact h.update n .failed (contains_cons_mono · _ _) (closedKeys_cons hk h.closed n (h.copying_ready n he))
      nofun nofun

theorem copyInv_reach {c : CopyCfg} (hk : KeyCons c) {dst0 : List Nat} (h0 : ClosedKeys c dst0)
    {ls : List Label} {s : CopySt} (hr : run? c (CopySt.init dst0) ls = some s) : CopyInv c s :=
  -- at the start every node is idle, and the invariant asks nothing of an idle node
  run?_invariant (CopyInv c) (copyInv_step hk) hr ⟨h0, nofun, nofun⟩

theorem CopyInv.reachable_present {c : CopyCfg} {s : CopySt} (inv : CopyInv c s)
    (hroots : ∀ r ∈ c.roots, s.st r = .done) {n : Node} (hn : Reachable c n) : present c s n = true := by
  induction hn with
  | root hr => exact inv.done_present _ (hroots _ hr)
  | kid _ hkk ih => exact inv.closed _ ih _ hkk

theorem retOk_iff {c : CopyCfg} {s : CopySt} {univ : List Node} :
    retOk c s univ = true ↔
      (∀ r ∈ c.roots, s.st r = .done) ∧ ∀ n ∈ univ, s.st n = .idle ∨ s.st n = .done := by
  simp [retOk]

theorem retOk_failed {c : CopyCfg} {s : CopySt} {univ : List Node} {n : Node} (hn : n ∈ univ)
    (hf : s.st n = .failed) : retOk c s univ = false :=
  Bool.eq_false_iff.mpr fun h => by simpa [hf] using (retOk_iff.mp h).2 n hn

end Oras
