/-
  C13 helper lemmas: over a range-capable server the range-based reader is a function of the
  cursor over the content, and steps as the cursor does.
-/
import OrasModel.Model.Seek
namespace Oras.Proofs.Seek
open Oras Oras.Seek

theorem drop_take_len {β : Type} (l : List β) (p n : Nat) :
    l.drop (p + ((l.drop p).take n).length) = (l.drop p).drop n := by
  rw [List.drop_drop, List.length_take, List.length_drop]
  by_cases h : n ≤ l.length - p
  · rw [Nat.min_eq_left h]
  · rw [List.drop_eq_nil_of_le (by omega), List.drop_eq_nil_of_le (by omega)]

/-- The reader whose cursor is `c`: its body is what the content still holds from there. -/
def rsc {β : Type} (content : List β) (c : Cur) : Rsc β :=
  ⟨content.length, c.pos, content.drop c.pos, c.closed⟩

theorem step_rsc {β : Type} (content : List β) (c : Cur) (op : Op) :
    step (goodSrv content) (rsc content c) op =
      (rsc content (specStep content c op).1, (specStep content c op).2) := by
  obtain ⟨pos, closed⟩ := c
  cases closed
  case true => cases op <;> rfl
  cases op with
  | close => rfl
  | read n =>
    -- the two sides differ only in how they write the body that is left
    exact congrArg (fun rest => (Rsc.mk _ _ rest _, _)) (drop_take_len content pos n).symm
  | seek offset whence =>
    dsimp only [rsc]
    simp only [step, specStep, Bool.false_eq_true, if_false]
    cases seekTarget offset whence pos content.length with
    | none => rfl
    | some t =>
      dsimp only
      by_cases hneg : t < 0
      · rw [if_pos hneg, if_pos hneg]
      rw [if_neg hneg, if_neg hneg]
      -- the cursor moves to `t.toNat`; the reader gets there in one of three ways
      by_cases hsame : t.toNat = pos
      · rw [if_pos hsame, hsame]
      rw [if_neg hsame]
      by_cases hbig : t.toNat ≥ content.length
      · rw [if_pos hbig, List.drop_eq_nil_of_le hbig]
      · rw [if_neg hbig]; rfl

theorem run_rsc {β : Type} (content : List β) (ops : List Op) (c : Cur) :
    run (step (goodSrv content)) (rsc content c) ops = run (specStep content) c ops := by
  induction ops generalizing c with
  | nil => rfl
  | cons op rest ih => rw [run, run, step_rsc, ih]

end Oras.Proofs.Seek
