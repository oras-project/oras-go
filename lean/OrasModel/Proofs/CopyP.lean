/-
  Progress of `copyGraph` under its limiter (`Model/CopyP.lean`): permit conservation, the
  termination measure, and the enabled-step lemma behind deadlock freedom.
  `Model/CopyP.lean` and `Model/Permits.lean` both declare `Oras.holders`, so this file and
  `Proofs/Permits.lean` cannot be imported together.
-/
import OrasModel.Model.CopyP
namespace Oras

theorem NSt.holds_iff {v : NSt} : v.holds = true ↔ v = .claimed ∨ v = .copying := by
  cases v <;> simp [NSt.holds]

theorem sum_fupd (w : NSt → Nat) (f : Node → NSt) (n : Node) (v : NSt) (univ : List Node)
    (hnd : univ.Nodup) (hmem : n ∈ univ) :
    (univ.map fun x : Node => w (fupd f n v x)).sum + w (f n) = (univ.map fun x => w (f x)).sum + w v := by
  -- with `n` brought to the front, the rest of the universe does not see the update
  have hp := List.perm_cons_erase hmem
  have hrest : (univ.erase n).map (fun x => w (fupd f n v x)) = (univ.erase n).map fun x => w (f x) :=
    List.map_congr_left fun x hx => by rw [fupd_other _ _ _ _ (hnd.mem_erase_iff.mp hx).1]
  rw [(hp.map _).sum_nat, (hp.map _).sum_nat, List.map_cons, List.map_cons, List.sum_cons, List.sum_cons,
    hrest, fupd_same]
  omega

theorem pstep_effect {c : CopyCfg} {s s' : PSt} {l : PLabel} (h : pstep? c s l = some s') :
    ∃ v, s'.st = fupd s.st l.node v ∧ (s.st l.node).progress < v.progress ∧
      s'.avail + (if v.holds then 1 else 0) = s.avail + (if (s.st l.node).holds then 1 else 0) := by
  -- Each of the eight branches of `pstep?` that return a state names the node's state before (in
  -- its guard) and after (in its result); with both put in, the claims are about numerals and
  -- `avail ± 1`; `claim` and `ready` need their `0 < avail`.
  -- They are case1 `claim`, case3 `existsT`, case5 / case6 `existsF` of a leaf / of a node with
  -- successors, case8 `ready`, case10 `push`, case12 / case13 `fail` of a task that holds a
  -- permit / that waits; the other six return `none`.
  revert h
  fun_cases pstep? c s l <;> intro h <;> cases h <;> refine ⟨_, rfl, ?_⟩
  -- `fail` of a task that holds a permit: it is `claimed` or `copying`
  case case12 hc => rcases hc with hc | hc <;> simp [PLabel.node, hc, NSt.progress, NSt.holds]
  all_goals simp [PLabel.node, NSt.progress, NSt.holds, *]
  all_goals omega

theorem measure_le (s : PSt) (univ : List Node) : measure s univ ≤ 4 * univ.length := by
  induction univ with
  | nil => exact Nat.le_refl 0
  | cons a t ih =>
    have : (s.st a).progress ≤ 4 := by cases s.st a <;> decide
    simp only [measure, List.map_cons, List.sum_cons, List.length_cons] at ih ⊢
    omega

theorem prun_holders_measure {c : CopyCfg} {univ : List Node} (hnd : univ.Nodup) {ls : List PLabel} {s s' : PSt}
    (hls : ∀ l ∈ ls, l.node ∈ univ) (h : prun? c s ls = some s') :
    s'.avail + holders s' univ = s.avail + holders s univ ∧ measure s univ + ls.length ≤ measure s' univ := by
  fun_induction prun? c s ls with
  | case1 s => cases h; exact ⟨rfl, Nat.le_refl _⟩
  | case2 s l ls s1 hs ih =>
    have hl := hls l List.mem_cons_self
    obtain ⟨v, hst, hpr, hav⟩ := pstep_effect hs
    -- the step changes each sum by what `v` weighs more than the state `l.node` was in: for the
    -- holders that is what `avail` lost (`hav`), for the measure it is positive (`hpr`)
    have h1 := sum_fupd (fun x => if x.holds then 1 else 0) s.st l.node v univ hnd hl
    have h2 := sum_fupd NSt.progress s.st l.node v univ hnd hl
    obtain ⟨h3, h4⟩ := ih (fun x hx => hls x (List.mem_cons_of_mem _ hx)) h
    simp only [holders, measure, hst, List.length_cons] at h3 h4 ⊢
    omega
  | case3 => cases h

/-- A run touches only the nodes its labels name; from `PSt.init` the others stay idle, which is
    what the docstring of `c02_permits_conserved` says of nodes never touched. -/
theorem prun_untouched (c : CopyCfg) (univ : List Node) (ls : List PLabel) (s s' : PSt)
    (hls : ∀ l ∈ ls, l.node ∈ univ) (h : prun? c s ls = some s') (m : Node) (hm : m ∉ univ) :
    s'.st m = s.st m := by
  fun_induction prun? c s ls with
  | case1 s => cases h; rfl
  | case2 s l ls s1 hs ih =>
    obtain ⟨v, hv, _⟩ := pstep_effect hs
    have hne : m ≠ l.node := fun e => hm (e ▸ hls l List.mem_cons_self)
    rw [ih (fun x hx => hls x (List.mem_cons_of_mem _ hx)) h, hv, fupd_other _ _ _ _ hne]
  | case3 => cases h

theorem holders_zero (s : PSt) (univ : List Node) (h : ∀ n ∈ univ, (s.st n).holds = false) : holders s univ = 0 :=
  List.sum_eq_zero_iff_forall_eq_nat.mpr (List.forall_mem_map.mpr fun n hn => by simp [h n hn])

theorem holders_init (limit : Nat) (univ : List Node) : holders (PSt.init limit) univ = 0 :=
  holders_zero _ univ (fun _ _ => rfl)

theorem measure_init (limit : Nat) (univ : List Node) : measure (PSt.init limit) univ = 0 :=
  List.sum_eq_zero_iff_forall_eq_nat.mpr (List.forall_mem_map.mpr fun _ _ => rfl)

/-- The state-local half of deadlock freedom: a task that holds a permit can always finish what it
    holds it for, and when no task holds one the deepest unfinished node below `n` can move. -/
theorem enabled_of_unfinished (c : CopyCfg) (rk : Node → Nat) (hrk : ∀ n k, k ∈ c.kids n → rk k < rk n)
    (s : PSt) (hfree : (∀ m, (s.st m).holds = false) → 0 < s.avail)
    (hnofail : ∀ m, s.st m ≠ .failed) (n : Node) (hn : s.st n ≠ .done) :
    ∃ l : PLabel, l.isFail = false ∧ (pstep? c s l).isSome = true := by
  by_cases hh : ∃ h, (s.st h).holds = true
  · obtain ⟨h, hh⟩ := hh
    rcases NSt.holds_iff.mp hh with hs | hs
    · exact ⟨.existsT h, rfl, by simp [pstep?, hs]⟩
    · exact ⟨.push h, rfl, by simp [pstep?, hs]⟩
  · have havail : 0 < s.avail := hfree fun m => Bool.eq_false_iff.mpr fun hm => hh ⟨m, hm⟩
    induction n using (InvImage.wf rk Nat.lt_wfRel.wf).induction with
    | _ n ih =>
      cases hs : s.st n with
      | idle => exact ⟨.claim n, rfl, by simp [pstep?, hs, havail]⟩
      | claimed | copying => exact absurd ⟨n, by rw [hs]; rfl⟩ hh
      | done => exact absurd hs hn
      | failed => exact absurd hs (hnofail n)
      | waiting =>
        by_cases hall : ∀ k ∈ c.kids n, s.st k = .done
        · exact ⟨.ready n, rfl, by simpa [pstep?, hs, havail] using hall⟩
        · -- some successor is unfinished, and it is deeper
          simp only [Classical.not_forall] at hall
          obtain ⟨k, hk, hkd⟩ := hall
          exact ih k (hrk n k hk) hkd

end Oras
