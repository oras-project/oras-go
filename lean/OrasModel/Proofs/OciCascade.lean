/-
  The loop of `Store.Delete` (C09), through a Hoare-style rule for it.  Soundness: every processed
  node other than the target is a referrer of a processed node or has no predecessor left in the
  graph, and stays without one, because `Delete` only ever removes edges.  Completeness: when the
  call succeeds, no stored untagged node is left that lost its subject or its last predecessor
  through this call.
-/
import OrasModel.Proofs.OciDelete
import OrasModel.Proofs.GraphMem
import OrasModel.Proofs.OciTags
namespace Oras
namespace OciSt

theorem referrers_eq_some (c : OciCfg) (st : OciSt) (n : Node) (l : List Node)
    (h : referrers c st n = some l) :
    l = (st.graph.predecessors n).filter (fun p => c.subject p = some n) ∧
    ∀ p ∈ st.graph.predecessors n, (c.subject p).isSome → p ∈ st.blobs := by
  unfold referrers at h
  generalize st.graph.predecessors n = ps at h ⊢
  induction ps generalizing l with
  | nil => cases h; exact ⟨rfl, nofun⟩
  | cons p ps ih =>
    rw [List.foldr_cons] at h
    rw [List.filter_cons, List.forall_mem_cons]
    cases hr : ps.foldr _ (some []) with
    | none => rw [hr] at h; cases h
    | some l' =>
      obtain ⟨rfl, hst⟩ := ih l' hr
      rw [hr] at h
      cases hs : c.subject p with
      | none =>
        rw [hs] at h; cases h
        exact ⟨by simp, by simp, hst⟩
      | some s =>
        rw [hs] at h
        dsimp only at h
        by_cases hb : p ∈ st.blobs
        · rw [if_pos hb] at h
          by_cases he : s = n
          · rw [if_pos he] at h; cases h
            exact ⟨by simp [he], fun _ => hb, hst⟩
          · rw [if_neg he] at h; cases h
            exact ⟨by simp [he], fun _ => hb, hst⟩
        · rw [if_neg hb] at h; cases h

theorem mem_loop_referrers {c : OciCfg} {st : OciSt} {h : Node} {rs : List Node}
    (hr : (if st.autoGC && c.isMan h then referrers c st h else some []) = some rs) (d : Node) :
    d ∈ rs ↔ st.autoGC = true ∧ c.isMan h = true ∧ d ∈ st.graph.predecessors h ∧ c.subject d = some h := by
  split at hr <;> rename_i hc <;> rw [Bool.and_eq_true] at hc
  · obtain ⟨rfl, -⟩ := referrers_eq_some c st h rs hr
    simp [List.mem_filter, hc]
  · cases hr
    exact ⟨nofun, fun ⟨hg, hm, _⟩ => (hc ⟨hg, hm⟩).elim⟩

/-- What one round of `Store.Delete`'s loop appends to the queue after deleting `head`
    (`oci.go:176-197`): the referrers and the danglings, each filtered by `isTagged`. -/
def queued (skipTagged : Bool) (st : OciSt) (head : Node) (rs : List Node) : List Node :=
  let st' := (st.deleteOne head).1
  (if skipTagged then rs.filter (fun r => !st.isTagged r) else rs) ++
    (if st'.autoGC then ((st.graph.remove head).2).filter (fun d => !st'.isTagged d) else [])

theorem mem_queued (skipTagged : Bool) (st : OciSt) (head : Node) (rs : List Node) (d : Node) :
    d ∈ queued skipTagged st head rs ↔
      (d ∈ rs ∧ (skipTagged = true → st.isTagged d = false)) ∨
      (st.autoGC = true ∧ d ∈ (st.graph.remove head).2 ∧ (st.deleteOne head).1.isTagged d = false) := by
  unfold queued
  rw [List.mem_append, autoGC_deleteOne]
  refine or_congr ?_ ?_
  · cases skipTagged <;> simp
  · cases st.autoGC <;> simp

theorem NoTagRef.deleteOne {st : OciSt} {d : Node} (hd : NoTagRef st d) (h : Node) :
    NoTagRef (st.deleteOne h).1 d :=
  fun e he => hd e ((refs_deleteOne_sublist st h).subset he)

theorem noTagRef_of_mem_queued {st : OciSt} {h d : Node} {rs : List Node} (hi : RefTagInv st)
    (hd : d ∈ queued true st h rs) : NoTagRef (st.deleteOne h).1 d := by
  rcases (mem_queued ..).mp hd with ⟨_, ht⟩ | ⟨_, _, ht⟩
  · exact (noTagRef_of_not_isTagged st d hi (ht rfl)).deleteOne h
  · exact noTagRef_of_not_isTagged _ d (refTagInv_deleteOne st h hi) ht

/-- `P` at the head of the loop, `Q` of the result.  A `Store.delete` that fails has changed the
    state all the same, so its error is `err` at the loop head `step` leads to; `refsFail` is the
    round in which the referrers cannot be listed. -/
theorem deleteLoop_induct (c : OciCfg) (skipTagged skipAbsent : Bool)
    {P : List Node → List Node → OciSt → Prop} {Q : OciSt × Except OErr Unit × List Node → Prop}
    (err : ∀ e q seen st, P q seen st → Q (st, .error e, seen))
    (done : ∀ seen st, P [] seen st → Q (st, .ok (), seen))
    (skip : ∀ h q seen st, P (h :: q) seen st → h ∉ st.blobs → P q seen st)
    (refsFail : ∀ h q seen st, P (h :: q) seen st → Q (st, .error .notFound, seen ++ [h]))
    (step : ∀ h q seen st rs, P (h :: q) seen st →
      (∀ d, d ∈ rs ↔
        st.autoGC = true ∧ c.isMan h = true ∧ d ∈ st.graph.predecessors h ∧ c.subject d = some h) →
      P (q ++ queued skipTagged st h rs) (seen ++ [h]) (st.deleteOne h).1) :
    ∀ fuel q seen st, P q seen st → Q (deleteLoop c skipTagged skipAbsent fuel q seen st) := by
  intro fuel
  induction fuel with
  | zero => intro q seen st h; exact err _ q seen st h
  | succ fuel ih =>
    intro q seen st hP
    cases q with
    | nil => exact done seen st hP
    | cons h q =>
      unfold deleteLoop
      split
      · next hs =>
        refine ih _ _ _ (skip h q seen st hP ?_)
        simp only [Bool.and_eq_true, Bool.not_eq_eq_eq_not, Bool.not_true, List.contains_eq_mem,
          decide_eq_false_iff_not] at hs
        exact hs.2
      · cases hr : (if (st.autoGC && c.isMan h) = true then referrers c st h else some []) with
        | none => exact refsFail h q seen st hP
        | some rs =>
          have hP' := step h q seen st rs hP (mem_loop_referrers hr)
          rw [queued, ← List.append_assoc] at hP'
          simp only
          rw [show st.deleteOne h = ((st.deleteOne h).1, (st.deleteOne h).2) from rfl, deleteOne_snd]
          by_cases hb : h ∈ st.blobs
          · simp only [hb, if_true]
            exact ih _ _ _ hP'
          · simp only [hb, if_false]
            exact err _ _ _ _ hP'

/-- Why a node is in the cascade. -/
def Justified (c : OciCfg) (n0 : Node) (seen : List Node) (g : GMem) (d : Node) : Prop :=
  d = n0 ∨ (∃ s ∈ seen, c.subject d = some s) ∨ g.preds d = []

theorem Justified.mono {c : OciCfg} {n0 : Node} {seen : List Node} {g : GMem} {d : Node}
    (hj : Justified c n0 seen g d) (x : Node) : Justified c n0 (seen ++ [x]) g d :=
  hj.imp_right (Or.imp_left fun ⟨s, hs, h⟩ => ⟨s, List.mem_append_left _ hs, h⟩)

theorem Justified.remove {c : OciCfg} {n0 : Node} {seen : List Node} {g : GMem} {d : Node}
    (hj : Justified c n0 seen g d) (h : Node) : Justified c n0 seen (g.remove h).1 d :=
  hj.imp_right (Or.imp_right fun (e : g.preds d = []) =>
    List.eq_nil_of_subset_nil (e ▸ GMem.preds_remove_subset g h d))

theorem deleteLoop_justified (c : OciCfg) (skipTagged skipAbsent : Bool) (n0 : Node)
    (fuel : Nat) (q seen : List Node) (st : OciSt)
    (hq : ∀ d ∈ q, Justified c n0 seen st.graph d) (hs : ∀ d ∈ seen, Justified c n0 seen st.graph d) :
    let r := deleteLoop c skipTagged skipAbsent fuel q seen st
    ∀ d ∈ r.2.2, Justified c n0 r.2.2 r.1.graph d := by
  have grow : ∀ {h q seen} {g : GMem}, (∀ d ∈ h :: q, Justified c n0 seen g d) →
      (∀ d ∈ seen, Justified c n0 seen g d) → ∀ d ∈ seen ++ [h], Justified c n0 (seen ++ [h]) g d := by
    intro h q seen g hq hs d hd
    rcases List.mem_append.mp hd with hd | hd
    · exact (hs d hd).mono h
    · exact (hq d (List.mem_singleton.mp hd ▸ List.mem_cons_self)).mono h
  refine deleteLoop_induct c skipTagged skipAbsent
    (P := fun q seen st =>
      (∀ d ∈ q, Justified c n0 seen st.graph d) ∧ ∀ d ∈ seen, Justified c n0 seen st.graph d)
    (Q := fun r => ∀ d ∈ r.2.2, Justified c n0 r.2.2 r.1.graph d) ?_ ?_ ?_ ?_ ?_ fuel q seen st ⟨hq, hs⟩
  · exact fun _ q seen st hP => hP.2
  · exact fun seen st hP => hP.2
  · exact fun h q seen st hP _ => ⟨fun d hd => hP.1 d (List.mem_cons_of_mem _ hd), hP.2⟩
  · exact fun h q seen st hP => grow hP.1 hP.2
  · intro h q seen st rs hP hrs
    simp only [graph_deleteOne]
    refine ⟨fun d hd => ?_, fun d hd => (grow hP.1 hP.2 d hd).remove h⟩
    rcases List.mem_append.mp hd with hd | hd
    · exact ((hP.1 d (List.mem_cons_of_mem _ hd)).mono h).remove h
    · rcases (mem_queued ..).mp hd with ⟨hd, _⟩ | ⟨_, hdang, _⟩
      · exact Or.inr (Or.inl ⟨h, by simp, ((hrs d).mp hd).2.2.2⟩)
      · exact Or.inr (Or.inr ((GMem.mem_danglings _ _ _).mp hdang).2.1)

/-- What a successful cascade may not leave behind: a stored, untagged node that (through
    this call) lost the manifest it refers to, or its last predecessor.  `st0` is the state
    the call started from. -/
def Owes (c : OciCfg) (st0 st : OciSt) (x : Node) : Prop :=
  x ∈ st.blobs ∧ st.isTagged x = false ∧
  ((∃ s, c.subject x = some s ∧ c.isMan s = true ∧ x ∈ st.graph.preds s ∧ s ∈ st0.blobs ∧ s ∉ st.blobs) ∨
   (st.graph.nodes x = true ∧ st0.graph.preds x ≠ [] ∧ st.graph.preds x = []))

/-- `hu`: the delete then leaves the tags of the other nodes alone; `hnd`: the deleted blob is gone. -/
theorem Owes.of_deleteOne {c : OciCfg} {skipTagged : Bool} {st0 st : OciSt} {h x : Node}
    {rs : List Node}
    (hgc : st.autoGC = true) (hu : RefUniq st) (hnd : st.blobs.Nodup)
    (hrs : ∀ d, d ∈ rs ↔
      st.autoGC = true ∧ c.isMan h = true ∧ d ∈ st.graph.predecessors h ∧ c.subject d = some h)
    (hx : Owes c st0 (st.deleteOne h).1 x) :
    x ≠ h ∧ (Owes c st0 st x ∨ x ∈ queued skipTagged st h rs) := by
  obtain ⟨hxb, hxt, hcase⟩ := hx
  have hmem : ∀ y, y ∈ (st.deleteOne h).1.blobs ↔ y ≠ h ∧ y ∈ st.blobs := fun y => by
    rw [blobs_deleteOne]; exact hnd.mem_erase_iff
  obtain ⟨hxne, hxb0⟩ := (hmem x).mp hxb
  have hxt0 : st.isTagged x = false := by rw [← isTagged_deleteOne_of_ne st h x hu hxne]; exact hxt
  refine ⟨hxne, ?_⟩
  simp only [graph_deleteOne] at hcase
  rcases hcase with ⟨s, hsub, hman, hpred, hs0, hs1⟩ | ⟨hnodes, hp0, hp1⟩
  · -- lost its subject
    have hpred0 := GMem.preds_remove_subset st.graph h s hpred
    by_cases hsb : s ∈ st.blobs
    · -- `s` was removed just now: it is `h`, and `x` one of its referrers
      have hse : s = h := Classical.byContradiction fun hne => hs1 ((hmem s).mpr ⟨hne, hsb⟩)
      subst hse
      exact .inr ((mem_queued ..).mpr (.inl ⟨(hrs x).mpr ⟨hgc, hman, hpred0, hsub⟩, fun _ => hxt0⟩))
    · exact .inl ⟨hxb0, hxt0, .inl ⟨s, hsub, hman, hpred0, hs0, hsb⟩⟩
  · -- lost its last predecessor
    have hnodes0 : st.graph.nodes x = true := by
      rwa [GMem.nodes_remove, if_neg hxne] at hnodes
    by_cases hpe : st.graph.preds x = []
    · exact .inl ⟨hxb0, hxt0, .inr ⟨hnodes0, hp0, hpe⟩⟩
    · -- the removal of `h` emptied it: `x` is a dangling successor of `h`
      have hsucc : x ∈ st.graph.succs h := Classical.byContradiction fun hns =>
        hpe (by rwa [GMem.preds_remove, if_neg hns] at hp1)
      exact .inr ((mem_queued ..).mpr (.inr ⟨hgc, (GMem.mem_danglings ..).mpr ⟨hsucc, hp1, hnodes0⟩, hxt⟩))

/-- The invariants of a reachable store state that the argument uses.  It is the hypothesis of
    `c09_cascade_complete`, which rests on `deleteLoop_complete` below and so needs `uniq` and
    `nodup` only. -/
structure CInv (st : OciSt) : Prop where
  uniq : RefUniq st
  inv : RefTagInv st
  exact : TagsExact st
  nodup : st.blobs.Nodup

/-- The loop invariant: the queue holds everything that is owed. -/
theorem deleteLoop_complete (c : OciCfg) (skipTagged skipAbsent : Bool) (st0 : OciSt) (fuel : Nat)
    (q seen : List Node) (st : OciSt) (hgc : st.autoGC = true) (hu : RefUniq st) (hnd : st.blobs.Nodup)
    (hq : ∀ x, Owes c st0 st x → x ∈ q) :
    let r := deleteLoop c skipTagged skipAbsent fuel q seen st
    r.2.1 = .ok () → ∀ x, ¬ Owes c st0 r.1 x := by
  refine deleteLoop_induct c skipTagged skipAbsent
    (P := fun q _ st => (st.autoGC = true ∧ RefUniq st ∧ st.blobs.Nodup) ∧ ∀ x, Owes c st0 st x → x ∈ q)
    (Q := fun r => r.2.1 = .ok () → ∀ x, ¬ Owes c st0 r.1 x)
    ?_ ?_ ?_ ?_ ?_ fuel q seen st ⟨⟨hgc, hu, hnd⟩, hq⟩
  · exact fun _ _ _ _ _ h => nomatch h
  · exact fun _ _ hP _ x hx => nomatch hP.2 x hx
  · -- `h` is no longer stored: nothing owed is lost with it
    intro h q _ st hP hb
    refine ⟨hP.1, fun x hx => ?_⟩
    rcases List.mem_cons.mp (hP.2 x hx) with rfl | e
    · exact absurd hx.1 hb
    · exact e
  · exact fun _ _ _ _ _ h => nomatch h
  · intro h q _ st rs ⟨⟨hgc, hu, hnd⟩, hq⟩ hrs
    refine ⟨⟨by rw [autoGC_deleteOne, hgc], refUniq_deleteOne st h hu,
      by rw [blobs_deleteOne]; exact hnd.erase h⟩, fun x hx => ?_⟩
    obtain ⟨hne, ho | hx⟩ := hx.of_deleteOne hgc hu hnd hrs
    · exact List.mem_append_left _ ((List.mem_cons.mp (hq x ho)).resolve_left hne)
    · exact List.mem_append_right _ hx

end OciSt
end Oras
