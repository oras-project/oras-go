/-
  C13 helper lemmas: what each check of a response accepts (`vcd` = `verifyContentDigest`),
  and that a response changed against what the call asked for fails it.  In front of them
  `ociIndexed_iff`, which is about no response: `ociIndexed` as membership in a list of
  three media types, the form the generated lists of `Gen/Facts.lean` are compared in.
-/
import OrasModel.Model.Remote
namespace Oras.Proofs.Remote
open Oras Oras.Remote

theorem ociIndexed_iff (mt : String) :
    mt ∈ ["application/vnd.oci.artifact.manifest.v1+json", "application/vnd.oci.image.manifest.v1+json",
          "application/vnd.oci.image.index.v1+json"] ↔ ociIndexed mt = true := by
  simp [ociIndexed, or_assoc]

section
variable {Body Dig : Type} [DecidableEq Dig]

theorem vcd_ok_iff (r : Resp Body Dig) (e : Dig) :
    verifyContentDigest r e = .ok () ↔ (r.dcd = .absent ∨ r.dcd = .valid e) := by
  unfold verifyContentDigest
  split
  next h => simp [h]
  next h => simp [h]
  next d h => rw [h]; split <;> simp [*]

/-- The digest header the reference registry sends passes the client's check. -/
theorem vcd_served (r : Resp Body Dig) (dh : Bool) (d : Dig)
    (h : r.dcd = if dh then .valid d else .absent) : verifyContentDigest r d = .ok () :=
  (vcd_ok_iff r d).2 (by cases dh <;> simp [h])

theorem genBlobDesc_ok (r : Resp Body Dig) (q : Dig) (d : Desc Dig)
    (h : genBlobDesc r q = .ok d) :
    d.dig = q ∧ r.clen = some d.size ∧ (r.dcd = .absent ∨ r.dcd = .valid q) := by
  simp only [genBlobDesc] at h
  split at h
  · cases h
  next n hn =>
    split at h
    · cases h
    next hv => cases h; exact ⟨rfl, hn, (vcd_ok_iff r q).1 hv⟩

theorem blobFetchCheck_ok (t : Desc Dig) (r : Resp Body Dig) (h : blobFetchCheck t r = .ok ()) :
    (∀ n, r.clen = some n → n = t.size) ∧ (r.dcd = .absent ∨ r.dcd = .valid t.dig) := by
  unfold blobFetchCheck at h
  split at h
  next n hn =>
    split at h
    · cases h
    next hs =>
      exact ⟨fun m hm => (by rw [hn] at hm; cases hm; exact Decidable.of_not_not hs), (vcd_ok_iff r _).1 h⟩
  next hn => exact ⟨fun m hm => (by rw [hn] at hm; cases hm), (vcd_ok_iff r _).1 h⟩

theorem manFetchCheck_eq (t : Desc Dig) (r : Resp Body Dig) :
    manFetchCheck t r = match r.ctype with
      | none => .error .badContentType
      | some mt => if mt ≠ t.mt then .error .mediaTypeMismatch else blobFetchCheck t r := rfl

theorem manFetchCheck_ok (t : Desc Dig) (r : Resp Body Dig) (h : manFetchCheck t r = .ok ()) :
    r.ctype = some t.mt ∧ (∀ n, r.clen = some n → n = t.size) ∧ (r.dcd = .absent ∨ r.dcd = .valid t.dig) := by
  rw [manFetchCheck_eq] at h
  split at h
  · cases h
  next mt hmt =>
    split at h
    · cases h
    next hm => exact ⟨by rw [hmt, Decidable.of_not_not hm], blobFetchCheck_ok t r h⟩

theorem genManifestDesc_ok (cx : Ctx Body Dig) (isHead : Bool) (refDigest : Option Dig)
    (r : Resp Body Dig) (d : Desc Dig) (h : genManifestDesc cx isHead refDigest r = .ok d) :
    r.ctype = some d.mt ∧ r.clen = some d.size ∧
    (∀ q, refDigest = some q → d.dig = q) ∧
    (∀ hd, r.dcd = .valid hd → d.dig = hd) ∧
    r.dcd ≠ .invalid ∧
    (r.dcd = .absent → isHead = true → refDigest = some d.dig) ∧
    (r.dcd = .absent → isHead = false → ∃ b, r.body = some b ∧ d.dig = cx.H b) := by
  unfold genManifestDesc at h
  split at h
  · cases h
  next mt hct =>
    split at h
    · cases h
    next n hcl =>
      dsimp only at h
      split at h
      · cases h
      next c hc =>
        -- `c` is the content digest the client settles on; `h` compares it with the requested one
        have hd : d = ⟨mt, c, n⟩ ∧ ∀ q, refDigest = some q → c = q := by
          split at h
          · split at h
            · cases h; exact ⟨rfl, fun q hq => by cases hq; exact Eq.symm ‹_›⟩
            · cases h
          · cases h; exact ⟨rfl, fun q hq => by cases hq⟩
        obtain ⟨rfl, href⟩ := hd
        refine ⟨hct, hcl, href, ?_⟩
        -- where `c` comes from (`hc`), by the digest header: invalid / valid / absent; when
        -- absent, on a HEAD (no or some requested digest) or on a GET (a body or none)
        split at hc
        · cases hc
        · cases hc; simp [*]
        · split at hc
          · split at hc
            · cases hc
            · cases hc; simp [*]
          · split at hc
            · cases hc; simp [*]
            · cases hc

omit [DecidableEq Dig] in
@[simp] theorem applyCorrupt_status (c : Option (Corrupt Dig)) (r : Resp Body Dig) :
    (applyCorrupt c r).status = r.status := by
  rcases c with _ | _ | _ | _ <;> rfl

omit [DecidableEq Dig] in
@[simp] theorem applyCorrupt_body (c : Option (Corrupt Dig)) (r : Resp Body Dig) :
    (applyCorrupt c r).body = r.body := by
  rcases c with _ | _ | _ | _ <;> rfl

/-- A response that agrees with what the call asked for on all three fields was not changed by
    a `c` that `contradicts` it. -/
theorem contradicts_elim {c : Corrupt Dig} {wd : Option Dig} {ws : Option Nat} {wm : Option String}
    (hc : contradicts c wd ws wm = true) (r0 : Resp Body Dig)
    (hd : ∀ w, wd = some w → (applyCorrupt (some c) r0).dcd = .absent ∨ (applyCorrupt (some c) r0).dcd = .valid w)
    (hs : ∀ w n, ws = some w → (applyCorrupt (some c) r0).clen = some n → n = w)
    (hm : ∀ w, wm = some w → (applyCorrupt (some c) r0).ctype = some w) : False := by
  -- in each case the changed field of `applyCorrupt (some c) r0` is, by `rfl`, the one `c` names
  cases c with
  | dcd x =>
    cases wd with
    | none => cases x <;> cases hc
    | some w => rcases hd w rfl with h | h <;> cases h <;> simp [contradicts] at hc
  | clen x =>
    cases ws with
    | none => cases x <;> cases hc
    | some w =>
      cases x with
      | none => cases hc
      | some n => cases hs w n rfl rfl; simp [contradicts] at hc
  | ctype x =>
    cases wm with
    | none => cases x <;> cases hc
    | some w => cases hm w rfl; simp [contradicts] at hc

/-- Used for `FetchReference`: such a change leaves the length the registry stated. -/
theorem contradicts_dig {c : Corrupt Dig} {q : Dig} (hc : contradicts c (some q) none none = true) :
    ∃ d, c = .dcd d := by
  rcases c with d | (_ | _) | (_ | _)
  · exact ⟨d, rfl⟩
  all_goals cases hc

theorem error_of_not_ok {α : Type} {x : Except RErr α} (h : ∀ a, x ≠ .ok a) : ∃ e, x = .error e := by
  cases x with
  | ok a => exact absurd rfl (h a)
  | error e => exact ⟨e, rfl⟩

theorem blobFetchCheck_contra (t : Desc Dig) (r0 : Resp Body Dig) (c : Corrupt Dig)
    (hc : contradicts c (some t.dig) (some t.size) none = true) :
    ∃ x, blobFetchCheck t (applyCorrupt (some c) r0) = .error x :=
  error_of_not_ok fun _ h =>
    have ⟨hs, hd⟩ := blobFetchCheck_ok t _ h
    contradicts_elim hc r0 (fun _ e => by cases e; exact hd) (fun _ n e => by cases e; exact hs n) nofun

theorem manFetchCheck_contra (t : Desc Dig) (r0 : Resp Body Dig) (c : Corrupt Dig)
    (hc : contradicts c (some t.dig) (some t.size) (some t.mt) = true) :
    ∃ x, manFetchCheck t (applyCorrupt (some c) r0) = .error x :=
  error_of_not_ok fun _ h =>
    have ⟨hm, hs, hd⟩ := manFetchCheck_ok t _ h
    contradicts_elim hc r0 (fun _ e => by cases e; exact hd) (fun _ n e => by cases e; exact hs n) (fun _ e => by cases e; exact hm)

theorem genBlobDesc_contra (q : Dig) (r0 : Resp Body Dig) (c : Corrupt Dig)
    (hc : contradicts c (some q) none none = true) :
    ∃ x, genBlobDesc (applyCorrupt (some c) r0) q = .error x :=
  error_of_not_ok fun d h =>
    have ⟨_, _, hd⟩ := genBlobDesc_ok _ q d h
    contradicts_elim hc r0 (fun _ e => by cases e; exact hd) nofun nofun

theorem genManifestDesc_contra (cx : Ctx Body Dig) (isHead : Bool) (q : Dig) (r0 : Resp Body Dig) (c : Corrupt Dig)
    (hc : contradicts c (some q) none none = true) :
    ∃ x, genManifestDesc cx isHead (some q) (applyCorrupt (some c) r0) = .error x :=
  error_of_not_ok fun d h =>
    have ⟨_, _, hq, hv, hi, _⟩ := genManifestDesc_ok cx isHead (some q) _ d h
    contradicts_elim hc r0
      (fun _ e => by
        cases e
        cases hdcd : (applyCorrupt (some c) r0).dcd with
        | absent => exact .inl rfl
        | invalid => exact absurd hdcd hi
        | valid x => rw [← hv x hdcd, hq q rfl]; exact .inr rfl)
      nofun nofun

end
end Oras.Proofs.Remote
