/-
  C13 helper lemmas: what each call sends (`Sent`), and with it that its registry effect is
  exactly that of serving its request trace in order (so invariants of `serve` lift to
  calls).  `mountBlob` follows in `RemoteSem`, because what it sends depends on what its
  `fetchBlob` returned (`fetchBlob_eq` there).
-/
import OrasModel.Proofs.RemoteReg
namespace Oras.Proofs.Remote
open Oras Oras.Remote

section
variable {Body Dig : Type} [DecidableEq Dig]

/-- A call is *faithful* when its registry effect is the replay of its trace. -/
def Faithful (cx : Ctx Body Dig) (p : Prof) (g : Reg Body Dig) (o : Out Body Dig) : Prop :=
  o.reg = replay cx p g o.trace

def Sent (cx : Ctx Body Dig) (p : Prof) (g : Reg Body Dig) (o : Out Body Dig) (tr : List (Req Body Dig)) : Prop :=
  o.trace = tr ∧ o.reg = replay cx p g tr

section
variable {cx : Ctx Body Dig} {p : Prof} {g : Reg Body Dig} {o o2 : Out Body Dig} {tr tr2 : List (Req Body Dig)}

theorem Sent.faithful (h : Sent cx p g o tr) : Faithful cx p g o := by
  rw [Faithful, h.1]; exact h.2

theorem Sent.allowed (h : Sent cx p g o tr) (ha : ∀ q ∈ tr, Allowed cx q = true) :
    ∀ q ∈ o.trace, Allowed cx q = true :=
  h.1 ▸ ha

theorem Sent.append (h : Sent cx p g o tr) (h2 : Sent cx p o.reg o2 tr2) :
    Sent cx p g { o2 with trace := o.trace ++ o2.trace } (tr ++ tr2) :=
  ⟨by rw [h.1, h2.1], by rw [replay_append, ← h.2]; exact h2.2⟩

end

section
variable (cx : Ctx Body Dig) (p : Prof) (g : Reg Body Dig) (rs : RState) (repo : String)

theorem fetchBlob_sent (c : Option (Corrupt Dig)) (t : Desc Dig) :
    Sent cx p g (fetchBlob cx p c g rs repo t) [.getBlob repo t.dig] := by
  unfold fetchBlob
  dsimp only
  split
  · split <;> exact ⟨rfl, rfl⟩
  · exact ⟨rfl, rfl⟩

theorem fetchManifest_sent (c : Option (Corrupt Dig)) (t : Desc Dig) :
    Sent cx p g (fetchManifest cx p c g rs repo t) [.getMan repo (.dig t.dig)] := by
  unfold fetchManifest
  dsimp only
  split
  · split <;> exact ⟨rfl, rfl⟩
  · exact ⟨rfl, rfl⟩

theorem resolveBlob_sent (c : Option (Corrupt Dig)) (d : Dig) :
    Sent cx p g (resolveBlob cx p c g rs repo d) [.headBlob repo d] := by
  unfold resolveBlob
  dsimp only
  split
  · split <;> exact ⟨rfl, rfl⟩
  · exact ⟨rfl, rfl⟩

theorem resolveManifest_sent (c : Option (Corrupt Dig)) (ref : Ref Dig) :
    Sent cx p g (resolveManifest cx p c g rs repo ref) [.headMan repo ref] := by
  unfold resolveManifest
  dsimp only
  split
  · split <;> exact ⟨rfl, rfl⟩
  · exact ⟨rfl, rfl⟩

theorem deleteRaw_sent (c : Option (Corrupt Dig)) (t : Desc Dig) (m : Bool) :
    Sent cx p g (deleteRaw cx p c g rs repo t m)
      [if m then .deleteMan repo t.dig else .deleteBlob repo t.dig] := by
  unfold deleteRaw
  generalize (if m then Req.deleteMan repo t.dig else Req.deleteBlob repo t.dig) = q
  dsimp only
  split
  · split <;> exact ⟨rfl, rfl⟩
  · exact ⟨rfl, rfl⟩

theorem pushBlob_sent (d : Desc Dig) (b : Body) :
    Sent cx p g (pushBlob cx p g rs repo d b)
      (if cx.len b ≠ d.size then [.postUpload repo]
       else [.postUpload repo, .putUpload repo g.next d.dig d.size b]) := by
  unfold pushBlob
  dsimp only
  rw [(serve_postUpload cx p g repo).1, (serve_postUpload cx p g repo).2, if_neg (by decide)]
  dsimp only
  split <;> exact ⟨rfl, rfl⟩

theorem putManifest_sent (d : Desc Dig) (b : Body) (ref : Ref Dig) (k : Bool) :
    Sent cx p g (putManifest cx p g rs repo d b ref k)
      (if k && cx.len b ≠ d.size then [] else [.putMan repo ref d.mt d.size b]) := by
  unfold putManifest
  by_cases hk : (k && decide (cx.len b ≠ d.size)) = true
  · rw [if_pos hk, if_pos hk]; exact ⟨rfl, rfl⟩
  · rw [if_neg hk, if_neg hk]
    dsimp only
    split
    · exact ⟨rfl, rfl⟩
    · split <;> exact ⟨rfl, rfl⟩

/-- `pushManifest` is `putManifest` of known length, with the client-side verification in
    front and the referrers state settled afterwards. -/
theorem pushManifest_cases (d : Desc Dig) (b : Body) (ref : Ref Dig) :
    pushManifest cx p g rs repo d b ref = ⟨g, rs, .err .contentMismatch, []⟩ ∨
    ∃ rs', pushManifest cx p g rs repo d b ref =
      { putManifest cx p g rs repo d b ref true with rs := rs' } := by
  unfold pushManifest
  generalize putManifest cx p g rs repo d b ref true = o
  obtain ⟨g', rs', res, tr⟩ := o
  by_cases h1 : (ociIndexed d.mt && decide (rs ≠ RState.supported)) = true
  · rw [if_pos h1]
    by_cases h2 : cx.len b ≠ d.size ∨ cx.H b ≠ d.dig
    · rw [if_pos h2]; exact .inl rfl
    · rw [if_neg h2]
      refine .inr ?_
      cases res
      case ok =>
        -- after a success the referrers state stays, or is settled by the ping
        dsimp only
        split
        · exact ⟨_, rfl⟩
        · split <;> exact ⟨_, rfl⟩
      all_goals exact ⟨_, rfl⟩
  · rw [if_neg h1]; exact .inr ⟨_, rfl⟩

theorem pushManifest_sent (d : Desc Dig) (b : Body) (ref : Ref Dig) :
    Sent cx p g (pushManifest cx p g rs repo d b ref) [] ∨
    cx.len b = d.size ∧
      Sent cx p g (pushManifest cx p g rs repo d b ref) [.putMan repo ref d.mt d.size b] := by
  rcases pushManifest_cases cx p g rs repo d b ref with h | ⟨rs', h⟩ <;> rw [h]
  · exact .inl ⟨rfl, rfl⟩
  · have hp := putManifest_sent cx p g rs repo d b ref true
    split at hp
    · exact .inl hp
    next hl => exact .inr ⟨by simpa using hl, hp⟩

end

theorem pushBlob_faithful (cx : Ctx Body Dig) (p : Prof) (g : Reg Body Dig) (rs : RState) (repo : String)
    (d : Desc Dig) (b : Body) : Faithful cx p g (pushBlob cx p g rs repo d b) :=
  (pushBlob_sent cx p g rs repo d b).faithful

theorem pushManifest_faithful (cx : Ctx Body Dig) (p : Prof) (g : Reg Body Dig) (rs : RState) (repo : String)
    (d : Desc Dig) (b : Body) (ref : Ref Dig) :
    Faithful cx p g (pushManifest cx p g rs repo d b ref) :=
  (pushManifest_sent cx p g rs repo d b ref).elim Sent.faithful (·.2.faithful)

theorem fetchBlob_faithful (cx : Ctx Body Dig) (p : Prof) (c : Option (Corrupt Dig)) (g : Reg Body Dig)
    (rs : RState) (repo : String) (t : Desc Dig) : Faithful cx p g (fetchBlob cx p c g rs repo t) :=
  (fetchBlob_sent cx p g rs repo c t).faithful

theorem fetchManifest_faithful (cx : Ctx Body Dig) (p : Prof) (c : Option (Corrupt Dig)) (g : Reg Body Dig)
    (rs : RState) (repo : String) (t : Desc Dig) : Faithful cx p g (fetchManifest cx p c g rs repo t) :=
  (fetchManifest_sent cx p g rs repo c t).faithful

theorem resolveManifest_faithful (cx : Ctx Body Dig) (p : Prof) (c : Option (Corrupt Dig)) (g : Reg Body Dig)
    (rs : RState) (repo : String) (ref : Ref Dig) : Faithful cx p g (resolveManifest cx p c g rs repo ref) :=
  (resolveManifest_sent cx p g rs repo c ref).faithful

theorem resolveBlob_faithful (cx : Ctx Body Dig) (p : Prof) (c : Option (Corrupt Dig)) (g : Reg Body Dig)
    (rs : RState) (repo : String) (d : Dig) : Faithful cx p g (resolveBlob cx p c g rs repo d) :=
  (resolveBlob_sent cx p g rs repo c d).faithful

theorem deleteRaw_faithful (cx : Ctx Body Dig) (p : Prof) (c : Option (Corrupt Dig)) (g : Reg Body Dig)
    (rs : RState) (repo : String) (t : Desc Dig) (m : Bool) : Faithful cx p g (deleteRaw cx p c g rs repo t m) :=
  (deleteRaw_sent cx p g rs repo c t m).faithful

end
end Oras.Proofs.Remote
