/-
  Order along a trace of the per-node copy system (C02, C04): every label raises the rank of its
  node (`step_rank`), so ranks only grow, each (node, rank) is reached once (`labels_once`) and
  failure is terminal (`failed_stays`); where a node's state comes from (`run_provenance`); and a
  counting lemma over a duplicate-free `map` for C04's at-most-once statements.
-/
import OrasModel.Proofs.Copy
namespace Oras

-- The same function as `NSt.progress` of `Model/CopyP.lean`, which is not imported here.
def NSt.rank : NSt → Nat
  | .idle => 0 | .claimed => 1 | .waiting => 2 | .copying => 3 | .done => 4 | .failed => 4

theorem NSt.rank_le (v : NSt) : v.rank ≤ 4 := by cases v <;> decide

theorem step_rank {c : CopyCfg} {s s' : CopySt} {l : Label} (hs : step? c s l = some s') :
    (s.st l.node).rank < l.target.rank := by
  obtain ⟨h, _⟩ := step?_eq_some.mp hs
  cases l <;> simp only [Label.enabled] at h <;> simp only [Label.node, Label.target]
  case claim | push | pushLate => rw [h]; decide
  case existsT | existsF | ready => rw [h.1]; decide
  case fail => rcases h with h | h | h <;> rw [h] <;> decide

theorem step_mono {c : CopyCfg} {s s' : CopySt} {l : Label} (hs : step? c s l = some s') (m : Node) :
    (s.st m).rank ≤ (s'.st m).rank := by
  by_cases e : m = l.node
  · rw [e, step_node hs]; exact Nat.le_of_lt (step_rank hs)
  · rw [step_other hs e]; exact Nat.le_refl _

theorem run_mono (c : CopyCfg) (ls : List Label) (s s' : CopySt) (hr : run? c s ls = some s') (m : Node) :
    (s.st m).rank ≤ (s'.st m).rank :=
  run?_invariant (fun t => (s.st m).rank ≤ (t.st m).rank) (fun hs h => Nat.le_trans h (step_mono hs m)) hr
    (Nat.le_refl _)

theorem mem_run_rank {c : CopyCfg} {ls : List Label} {s s' : CopySt} (hr : run? c s ls = some s')
    {l : Label} (h : l ∈ ls) : (s.st l.node).rank < l.target.rank := by
  -- split the trace at `l`: ranks do not fall before it, and `l` needs its node below its target
  obtain ⟨a, b, rfl⟩ := List.append_of_mem h
  obtain ⟨s1, ha, hb⟩ := run?_append.mp hr
  obtain ⟨_, hs, _⟩ := run?_cons.mp hb
  exact Nat.lt_of_le_of_lt (run_mono c a s s1 ha _) (step_rank hs)

theorem labels_once {c : CopyCfg} {ls : List Label} {s s' : CopySt} (hr : run? c s ls = some s') :
    (ls.map fun l => (l.node, l.target.rank)).Nodup := by
  refine run?_induction (motive := fun _ ls => (ls.map fun l => (l.node, l.target.rank)).Nodup)
    List.nodup_nil ?_ hr
  intro s s1 l ls hs hr ih
  refine List.nodup_cons.mpr ⟨fun hin => ?_, ih⟩
  -- a later label with the key of `l` would find its node already at that rank
  obtain ⟨l', hl', e⟩ := List.mem_map.mp hin
  injection e with e1 e2
  have h1 := mem_run_rank hr hl'
  rw [e1, e2, ← step_node hs] at h1
  exact Nat.lt_irrefl _ h1

theorem failed_step {c : CopyCfg} {n : Node} {s s' : CopySt} {l : Label} (hs : step? c s l = some s')
    (hf : s.st n = .failed) : s'.st n = .failed := by
  rw [step_other hs, hf]
  rintro rfl
  exact absurd (step_rank hs) (hf ▸ Nat.not_lt.mpr l.target.rank_le)

theorem failed_stays {c : CopyCfg} {n : Node} {ls : List Label} {a b : CopySt}
    (h1 : run? c a ls = some b) : a.st n = .failed → b.st n = .failed :=
  run?_invariant (fun s => s.st n = .failed) failed_step h1

theorem run_provenance {c : CopyCfg} {ls : List Label} {s0 s : CopySt} (hr : run? c s0 ls = some s) (n : Node) :
    s.st n = s0.st n ∨ ∃ l ∈ ls, l.node = n ∧ l.target = s.st n := by
  refine run?_induction (motive := fun s0 ls => s.st n = s0.st n ∨ ∃ l ∈ ls, l.node = n ∧ l.target = s.st n)
    (Or.inl rfl) ?_ hr
  intro s0 s1 l ls hs _ ih
  rcases ih with ih | ⟨l', hl', h⟩
  · by_cases e : n = l.node
    · exact Or.inr ⟨l, List.mem_cons_self, e.symm, by rw [ih, e, step_node hs]⟩
    · exact Or.inl (ih.trans (step_other hs e))
  · exact Or.inr ⟨l', List.mem_cons_of_mem _ hl', h⟩

theorem ready_of_copying {c : CopyCfg} {dst0 : List Nat} {ls : List Label} {s : CopySt}
    (hr : run? c (CopySt.init dst0) ls = some s) {n : Node} (h : s.st n = .copying) : Label.ready n ∈ ls := by
  rcases run_provenance hr n with h' | ⟨l, hl, rfl, ht⟩
  · rw [h] at h'; cases h'
  · rw [h] at ht; cases l <;> cases ht; exact hl

theorem push_or_existsT_of_done {c : CopyCfg} {dst0 : List Nat} {ls : List Label} {s : CopySt}
    (hr : run? c (CopySt.init dst0) ls = some s) {n : Node} (h : s.st n = .done) :
    Label.push n ∈ ls ∨ Label.existsT n ∈ ls := by
  rcases run_provenance hr n with h' | ⟨l, hl, rfl, ht⟩
  · rw [h] at h'; cases h'
  · rw [h] at ht; cases l <;> cases ht
    · exact .inr hl
    · exact .inl hl

/-- A value of a duplicate-free `map f` is hit at most once. -/
theorem length_filter_le_one {α β : Type} [DecidableEq β] {f : α → β} {l : List α} (hnd : (l.map f).Nodup)
    (p : α → Bool) (b : β) (hp : ∀ a, p a = true → f a = b) : (l.filter p).length ≤ 1 :=
  calc (l.filter p).length
      = l.countP p := List.countP_eq_length_filter.symm
    _ ≤ l.countP (f · == b) := List.countP_mono_left fun a _ h => beq_iff_eq.mpr (hp a h)
    _ = (l.map f).count b := by rw [List.count_eq_countP, List.countP_map]; rfl
    _ ≤ 1 := List.nodup_iff_count.mp hnd b

end Oras
