/-
  C13 helper lemmas: the reference registry.  Its association lists, what `serve` answers to
  the requests the proofs look into, the invariant that stored content is filed under its own
  digest, and the registry a sequence of requests leaves (`replay`).
-/
import OrasModel.Model.Remote
import OrasModel.Proofs.Basic
namespace Oras.Proofs.Remote
open Oras Oras.Remote

section alist
variable {κ ν : Type} [DecidableEq κ]

theorem alookup_eq_find (l : List (κ × ν)) (k : κ) : alookup l k = (l.find? (·.1 = k)).map (·.2) := by
  induction l with
  | nil => rfl
  | cons hd tl ih =>
    rw [alookup, List.find?_cons]
    by_cases h : hd.1 = k
    · simp [h]
    · simp [h, ih]

theorem alookup_adel (l : List (κ × ν)) (k k' : κ) :
    alookup (adel l k) k' = if k' = k then none else alookup l k' := by
  rw [alookup_eq_find, alookup_eq_find]
  exact assoc_remove l k k'

theorem alookup_aset (l : List (κ × ν)) (k k' : κ) (v : ν) :
    alookup (aset l k v) k' = if k' = k then some v else alookup l k' := by
  rw [alookup_eq_find, alookup_eq_find]
  exact assoc_write l k k' v

theorem aset_forall {P : κ → ν → Prop} {l : List (κ × ν)} {k : κ} {v : ν}
    (h : ∀ k' v', alookup l k' = some v' → P k' v') (hv : P k v) :
    ∀ k' v', alookup (aset l k v) k' = some v' → P k' v' := by
  intro k' v' e
  rw [alookup_aset] at e
  split at e
  · cases e; subst k'; exact hv
  · exact h k' v' e

theorem adel_forall {P : κ → ν → Prop} {l : List (κ × ν)} {k : κ}
    (h : ∀ k' v', alookup l k' = some v' → P k' v') :
    ∀ k' v', alookup (adel l k) k' = some v' → P k' v' := by
  intro k' v' e
  rw [alookup_adel] at e
  split at e
  · cases e
  · exact h k' v' e

end alist

section registry
variable {Body Dig : Type}

@[simp] theorem set_repos_same (g : Reg Body Dig) (name : String) (r : RepoSt Body Dig) :
    (g.set name r).repos name = r := by simp [Reg.set]

theorem set_repos_other (g : Reg Body Dig) (name other : String) (r : RepoSt Body Dig) (h : other ≠ name) :
    (g.set name r).repos other = g.repos other := by simp [Reg.set, h]

variable [DecidableEq Dig]

/-- What the manifests end-point holds under a reference. -/
def manAt (g : Reg Body Dig) (repo : String) (ref : Ref Dig) : Option (Dig × String × Body) :=
  (resolveRef (g.repos repo) ref).bind (fun d => (alookup (g.repos repo).mans d).map (fun m => (d, m)))

theorem manAt_dig (g : Reg Body Dig) (repo : String) (d : Dig) :
    manAt g repo (.dig d) = (alookup (g.repos repo).mans d).map (fun m => (d, m)) := rfl

theorem manAt_eq_some {g : Reg Body Dig} {repo : String} {ref : Ref Dig} {d : Dig} {mt : String} {b : Body} :
    manAt g repo ref = some (d, mt, b) ↔
      resolveRef (g.repos repo) ref = some d ∧ alookup (g.repos repo).mans d = some (mt, b) := by
  unfold manAt
  cases resolveRef (g.repos repo) ref with
  | none => simp
  | some d' =>
    rw [Option.bind_some, Option.map_eq_some_iff]
    constructor
    · rintro ⟨m, hm, e⟩; cases e; exact ⟨rfl, hm⟩
    · rintro ⟨e, hm⟩; cases e; exact ⟨_, hm, rfl⟩

section serve
variable (cx : Ctx Body Dig) (p : Prof) (g : Reg Body Dig) (repo : String)

theorem serve_headMan (ref : Ref Dig) :
    serve cx p g (.headMan repo ref) =
      match manAt g repo ref with
      | none => (g, { status := 404 })
      | some (d, mt, b) => (g, manResp cx p d mt b false) := rfl

theorem serve_getMan (ref : Ref Dig) :
    serve cx p g (.getMan repo ref) =
      match manAt g repo ref with
      | none => (g, { status := 404 })
      | some (d, mt, b) => (g, manResp cx p d mt b true) := rfl

theorem serve_postUpload :
    (serve cx p g (.postUpload repo)).2.status = 202 ∧
    (serve cx p g (.postUpload repo)).2.location = some g.next :=
  ⟨rfl, rfl⟩

theorem serve_putMan_created (ref : Ref Dig) (ct : String) (n : Nat) (b : Body) (h : (serve cx p g (.putMan repo ref ct n b)).2.status = 201) :
    alookup (((serve cx p g (.putMan repo ref ct n b)).1.repos repo).mans) (cx.H b) = some (ct, b) ∧
    (∀ t, ref = .tag t → alookup (((serve cx p g (.putMan repo ref ct n b)).1.repos repo).tags) t = some (cx.H b)) ∧
    (∀ d, ref = .dig d → d = cx.H b) ∧
    (serve cx p g (.putMan repo ref ct n b)).2.dcd = if p.dh then .valid (cx.H b) else .absent := by
  cases ref with
  | tag t => simp [serve, alookup_aset]
  | dig d =>
    by_cases hd : d = cx.H b
    · simp [serve, hd, alookup_aset]
    · simp [serve, hd] at h

theorem serve_200_clen (q : Req Body Dig)
    (h : (serve cx p g q).2.status = 200) : ∃ n, (serve cx p g q).2.clen = some n := by
  -- every answer `serve` can give: the 200s are the found HEAD and GET answers, which state
  -- the length; all others carry 404, 400, 201 or 202
  revert h
  fun_cases serve cx p g q
  all_goals first | exact fun _ => ⟨_, rfl⟩ | exact fun h => nomatch h

end serve

/-- Every stored blob and manifest is filed under the digest of its bytes. -/
def RegInv (cx : Ctx Body Dig) (g : Reg Body Dig) : Prop :=
  ∀ repo, (∀ d b, alookup (g.repos repo).blobs d = some b → cx.H b = d) ∧
          (∀ d mt b, alookup (g.repos repo).mans d = some (mt, b) → cx.H b = d)

theorem regInv_empty (cx : Ctx Body Dig) : RegInv cx (Reg.empty : Reg Body Dig) := by
  intro repo; simp [Reg.empty, alookup]

theorem regInv_set (cx : Ctx Body Dig) (g : Reg Body Dig) (name : String) (r : RepoSt Body Dig)
    (h : RegInv cx g)
    (hb : ∀ d b, alookup r.blobs d = some b → cx.H b = d)
    (hm : ∀ d mt b, alookup r.mans d = some (mt, b) → cx.H b = d) :
    RegInv cx (g.set name r) := by
  intro repo
  by_cases e : repo = name
  · subst e; simp only [set_repos_same]; exact ⟨hb, hm⟩
  · rw [set_repos_other g name repo r e]; exact h repo

theorem regInv_next (cx : Ctx Body Dig) (g : Reg Body Dig) (n : Nat) (h : RegInv cx g) :
    RegInv cx { g with next := n } := h

theorem regInv_serve (cx : Ctx Body Dig) (p : Prof) (g : Reg Body Dig) (q : Req Body Dig)
    (h : RegInv cx g) : RegInv cx (serve cx p g q).1 := by
  -- the manifest half of the invariant, as a property of whole entries
  have hm (repo) : ∀ d (m : String × Body), alookup (g.repos repo).mans d = some m → cx.H m.2 = d :=
    fun d m => (h repo).2 d m.1 m.2
  cases q with
  | headBlob repo d => simp only [serve]; split <;> exact h
  | getBlob repo d => simp only [serve]; split <;> exact h
  | headMan repo r => simp only [serve]; split <;> exact h
  | getMan repo r => simp only [serve]; split <;> exact h
  | postUpload repo => exact regInv_next cx _ _ (regInv_set cx g repo _ h (h repo).1 (h repo).2)
  | deleteBlob repo d =>
    simp only [serve]; split
    · exact h
    · exact regInv_set cx g repo _ h (adel_forall (h repo).1) (h repo).2
  | deleteMan repo d =>
    simp only [serve]; split
    · exact h
    · exact regInv_set cx g repo _ h (h repo).1 fun d mt b => adel_forall (hm repo) d (mt, b)
  | postMount repo d src =>
    simp only [serve]
    split
    next b hb =>
      -- a mounted blob comes out of the source repository, filed there under `d`
      refine regInv_set cx g repo _ h (aset_forall (h repo).1 ?_) (h repo).2
      split at hb
      · exact (h src).1 _ _ hb
      · cases hb
    · exact regInv_next cx _ _ (regInv_set cx g repo _ h (h repo).1 (h repo).2)
  | putUpload repo s d n b =>
    simp only [serve]
    by_cases hs : ¬ (g.repos repo).uploads.contains s = true
    · rw [if_pos hs]; exact h
    rw [if_neg hs]
    by_cases hH : cx.H b ≠ d
    · rw [if_pos hH]; exact h
    rw [if_neg hH]
    exact regInv_set cx g repo _ h (aset_forall (h repo).1 (Decidable.of_not_not hH)) (h repo).2
  | putMan repo r ct n b =>
    -- a manifest is filed under the digest of its bytes whatever the reference says
    have hput := fun d mt b' => aset_forall (hm repo) (v := (ct, b)) rfl d (mt, b')
    cases r with
    | tag t => exact regInv_set cx g repo _ h (h repo).1 hput
    | dig d =>
      simp only [serve]
      by_cases hd : d ≠ cx.H b
      · rw [if_pos hd]; exact h
      · rw [if_neg hd]; exact regInv_set cx g repo _ h (h repo).1 hput

def replay (cx : Ctx Body Dig) (p : Prof) (g : Reg Body Dig) (trace : List (Req Body Dig)) : Reg Body Dig :=
  trace.foldl (fun g q => (serve cx p g q).1) g

theorem replay_append (cx : Ctx Body Dig) (p : Prof) (g : Reg Body Dig) (a b : List (Req Body Dig)) :
    replay cx p g (a ++ b) = replay cx p (replay cx p g a) b :=
  List.foldl_append ..

theorem regInv_replay (cx : Ctx Body Dig) (p : Prof) (tr : List (Req Body Dig)) (g : Reg Body Dig)
    (h : RegInv cx g) : RegInv cx (replay cx p g tr) :=
  List.foldlRecOn tr _ h fun g hg q _ => regInv_serve cx p g q hg

end registry
end Oras.Proofs.Remote
