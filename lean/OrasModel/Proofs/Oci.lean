/- Equations of the resolver and of `Push`/`Tag`/`Untag` of the OCI store model, field by
   field (C06, C08, C09), and when `succOf`, what `content.Successors` reads of a node for the
   graph index, gives a list (`succOf_eq_some`; C07, C09). -/
import OrasModel.Model.Oci
import OrasModel.Proofs.Basic
namespace Oras
namespace OciSt

theorem lookupRef_resolverTag (st : OciSt) (n : Node) (a : Nat) (k k' : RefKey) :
    (st.resolverTag n a k).lookupRef k' = if k' = k then some (n, a) else st.lookupRef k' :=
  assoc_write st.refs k k' (n, a)

theorem resolverUntag_eq (st : OciSt) (k : RefKey) :
    st.resolverUntag k =
      { st with
        refs := st.refs.filter (fun e => e.1 ≠ k)
        tagsOf := fun m =>
          if (st.lookupRef k).map (·.1) = some m then (st.tagsOf m).erase k else st.tagsOf m } := by
  unfold resolverUntag
  split
  · next h =>
    -- no entry has key `k`
    have hr : st.refs.filter (fun e => e.1 ≠ k) = st.refs := by
      simp only [lookupRef, Option.map_eq_none_iff, List.find?_eq_none] at h
      exact List.filter_eq_self.mpr (by simpa using h)
    simp only [h, hr, Option.map_none, reduceCtorEq, if_false]
  · next n a h =>
    congr 1
    funext m
    by_cases hm : m = n
    · simp [h, hm]
    · simp [h, hm, Ne.symm hm]

theorem lookupRef_resolverUntag (st : OciSt) (k k' : RefKey) :
    (st.resolverUntag k).lookupRef k' = if k' = k then none else st.lookupRef k' := by
  rw [resolverUntag_eq]
  exact assoc_remove st.refs k k'

theorem refs_resolverUntag (st : OciSt) (k : RefKey) :
    (st.resolverUntag k).refs = st.refs.filter (fun e => e.1 ≠ k) := by
  rw [resolverUntag_eq]

theorem tagsOf_resolverUntag (st : OciSt) (k : RefKey) (m : Node) :
    (st.resolverUntag k).tagsOf m =
      if (st.lookupRef k).map (·.1) = some m then (st.tagsOf m).erase k else st.tagsOf m := by
  rw [resolverUntag_eq]

@[simp] theorem blobs_resolverUntag (st : OciSt) (k : RefKey) : (st.resolverUntag k).blobs = st.blobs := by
  rw [resolverUntag_eq]

@[simp] theorem blobs_resolverTag (st : OciSt) (n : Node) (a : Nat) (k : RefKey) :
    (st.resolverTag n a k).blobs = st.blobs := rfl

theorem graph_resolverTag (st : OciSt) (n : Node) (a : Nat) (k : RefKey) :
    (st.resolverTag n a k).graph = st.graph := rfl

@[simp] theorem lookupRef_saveIndex (st : OciSt) (k : RefKey) : st.saveIndex.lookupRef k = st.lookupRef k := rfl
@[simp] theorem blobs_saveIndex (st : OciSt) : st.saveIndex.blobs = st.blobs := rfl

@[simp] theorem lookupRef_autosave (st : OciSt) (k : RefKey) : st.autosave.lookupRef k = st.lookupRef k := by
  unfold autosave; split <;> rfl

@[simp] theorem blobs_autosave (st : OciSt) : st.autosave.blobs = st.blobs := by
  unfold autosave; split <;> rfl

theorem blobs_tagInternal (st : OciSt) (n : Node) (a : Nat) (k : RefKey) :
    (st.tagInternal n a k).blobs = st.blobs := by
  unfold tagInternal
  split <;> simp

theorem lookupRef_tagInternal (st : OciSt) (n : Node) (a : Nat) (k k' : RefKey) :
    (st.tagInternal n a k).lookupRef k' =
      if k' = k ∨ k' = .dig n then some (n, a) else st.lookupRef k' := by
  unfold tagInternal
  simp only [lookupRef_autosave, lookupRef_resolverTag]
  by_cases h : k' = k
  · simp [h]
  · simp only [h, if_false, false_or]
    split
    · rw [lookupRef_resolverTag]
    · next hk => rw [if_neg fun e => h (e.trans (Classical.not_not.mp hk).symm)]

theorem mem_blobs_push (c : OciCfg) (st : OciSt) (n m : Node) :
    m ∈ (st.push c n).1.blobs ↔ m = n ∨ m ∈ st.blobs := by
  unfold push
  split
  · next h => exact ⟨Or.inr, fun h' => h'.elim (· ▸ h) id⟩
  · split
    · rw [blobs_tagInternal]; exact List.mem_cons
    · exact List.mem_cons

theorem lookupRef_push_tag (c : OciCfg) (st : OciSt) (n : Node) (nm : Nat) :
    (st.push c n).1.lookupRef (.tag nm) = st.lookupRef (.tag nm) := by
  unfold push
  split
  · rfl
  · split
    · rw [lookupRef_tagInternal, if_neg (by simp)]; rfl
    · rfl

theorem push_snd (c : OciCfg) (st : OciSt) (n : Node) :
    (st.push c n).2 = if n ∈ st.blobs then .error .alreadyExists else .ok () := by
  unfold push; split
  · rfl
  · split <;> rfl

theorem succOf_eq_some (c : OciCfg) (blobs : List Node) (n : Node) (ss : List Node) :
    succOf c blobs n = some ss ↔
      (c.isMan n = true ∧ n ∈ blobs ∧ ss = c.succ n) ∨ (c.isMan n = false ∧ ss = []) := by
  unfold succOf
  by_cases hm : c.isMan n = true
  · by_cases hb : n ∈ blobs <;> simp [hm, hb, eq_comm]
  · simp [hm, eq_comm]

end OciSt
end Oras
