/-
  Permit accounting of the limiter (C04).  `Model/Permits.lean` and `Model/CopyP.lean` both
  declare `Oras.holders`, so this file and `Proofs/CopyP.lean` cannot be imported together.
-/
import OrasModel.Model.Permits
namespace Oras

structure PermitInv (limit : Nat) (s : PermitSt) : Prop where
  conserve : s.avail + holders s.regions = limit
  busyHolds : ∀ r ∈ s.regions, r.busy = true → r.ended = false

theorem PermitInv.set {limit : Nat} {s : PermitSt} (h : PermitInv limit s) {i : Nat} {r : Region}
    (hi : s.regions[i]? = some r) (r' : Region) (avail' : Nat)
    (hav : avail' + (if !r'.ended then 1 else 0) = s.avail + (if !r.ended then 1 else 0))
    (hb : r'.busy = true → r'.ended = false) :
    PermitInv limit { s with avail := avail', regions := s.regions.set i r' } := by
  constructor
  · obtain ⟨hlt, rfl⟩ := List.getElem?_eq_some_iff.mp hi
    -- core's `countP_set` subtracts what `r` counted for; by `hle` the subtraction does not truncate
    have hset := List.countP_set (p := fun r : Region => !r.ended) (a := r') hlt
    have hle := List.boole_getElem_le_countP (p := fun r : Region => !r.ended) hlt
    have := h.conserve
    simp only [holders] at this ⊢
    omega
  · intro x hx
    rcases List.mem_or_eq_of_mem_set hx with e | rfl
    · exact h.busyHolds x e
    · exact hb

theorem permitInv_step {limit : Nat} {s t : PermitSt} (h : PermitInv limit s) (st : PermitStep s t) :
    PermitInv limit t := by
  cases st with
  | spawn =>
    -- the new region is ended and not busy
    constructor
    · simpa [holders] using h.conserve
    · exact List.forall_mem_append.mpr ⟨h.busyHolds, List.forall_mem_singleton.mpr nofun⟩
  | noop => exact h
  -- a permit goes from the semaphore to the region, and back from a region that is not busy
  | start i r hi he ha => exact h.set hi _ _ (by simp [he]; omega) (fun _ => rfl)
  | end_ i r hi he hb => exact h.set hi _ _ (by simp [he]) (fun hb' => nomatch hb.symm.trans hb')
  -- `ended` does not change
  | beginOp i r hi he hb => exact h.set hi _ _ rfl (fun _ => he)
  | endOp i r hi hb => exact h.set hi _ _ rfl nofun

theorem permitInv_reach {limit : Nat} {s : PermitSt} (h : PermitReach limit s) : PermitInv limit s := by
  induction h with
  | init => exact ⟨rfl, fun _ h => nomatch h⟩
  | step _ st ih => exact permitInv_step ih st

end Oras
