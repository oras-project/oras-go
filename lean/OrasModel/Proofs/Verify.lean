/-
  Lemmas for `Model/Verify.lean` (C05): the read loop against what the source delivers, the
  final check, the content map, and the OCI layout's push as an instance of the memory store's.
-/
import OrasModel.Model.Verify
namespace Oras

theorem atEOF_iff (r : Reader) : atEOF r = true ↔ delivered r = ([], true) := by
  fun_induction atEOF r <;> simp [delivered, Prod.ext_iff, *]

theorem pull_zero (r : Reader) (acc : Bytes) : pull r 0 acc = .ok (acc, r) := by
  cases r <;> rfl

/-- What a result of the read loop says about the source; it fails only on a source that does not
    deliver exactly `n` bytes and then a clean EOF. -/
def PullSpec (r : Reader) (n : Nat) (acc : Bytes) : Except VErr (Bytes × Reader) → Prop
  | .ok (out, rest) => ∃ b, out = acc ++ b ∧ b.length = n ∧
      delivered r = (b ++ (delivered rest).1, (delivered rest).2)
  | .error _ => (delivered r).2 = true → (delivered r).1.length ≠ n

theorem pull_spec (r : Reader) (n : Nat) (acc : Bytes) : PullSpec r n acc (pull r n acc) := by
  fun_induction pull r n acc
  -- The equations of `pull` in their order: nothing is asked for (case1); otherwise `n + 1` bytes
  -- are, and the first event of the source decides.
  case case1 => exact ⟨[], by simp⟩
  -- `data bs` that fits, `bs.length ≤ n + 1`: it is delivered, and the loop goes on
  case case3 bs rest n acc hl ih =>
    match pull rest (n + 1 - bs.length) (acc ++ bs), ih with
    | .ok (out, rest), ⟨b, h1, h2, h3⟩ =>
      exact ⟨bs ++ b, by simp [h1], by simp [h2]; omega, by simp [delivered, h3]⟩
    | .error _, h =>
      simp only [PullSpec, delivered, List.length_append]
      exact fun hf hlen => h hf (by omega)
  -- `dataEof bs` shorter than asked: an error, and the source does deliver fewer than `n + 1` bytes
  case case5 => simp only [PullSpec, delivered]; omega
  -- `dataEof bs` of just the length asked
  case case6 bs _ _ _ _ he => exact ⟨bs, rfl, he, by simp [delivered]⟩
  -- `data` (4), `dataEof` (7), `dataErr` (9), `dataErrOnce` (11) longer than asked: the chunk is cut
  -- there, and the loop ends
  case case4 | case7 | case9 | case11 =>
    exact ⟨_, rfl, by rw [List.length_take]; omega, by simp [delivered, ← List.append_assoc]⟩
  -- the other errors: the empty script (2), `dataErr` and `dataErrOnce` no longer than asked (8, 10),
  -- `eof` (12), `fail` (13).  The source fails, or ends with nothing delivered where `n + 1` bytes are due.
  all_goals simp [PullSpec, delivered]

theorem pull_complete (r : Reader) (n : Nat) (acc b : Bytes)
    (hd : delivered r = (b, true)) (hn : b.length = n) :
    ∃ rest, pull r n acc = .ok (acc ++ b, rest) ∧ atEOF rest = true := by
  have := pull_spec r n acc
  match pull r n acc, this with
  | .error _, h => exact absurd hn (by simpa [PullSpec, hd] using h)
  | .ok (out, rest), ⟨b', h1, h2, h3⟩ =>
    rw [hd, Prod.mk.injEq] at h3
    -- `b'` and `b` have the same length, so nothing is left in `rest`
    have hnil : (delivered rest).1 = [] := by
      have := congrArg List.length h3.1
      rw [List.length_append] at this
      exact List.eq_nil_of_length_eq_zero (by omega)
    rw [hnil, List.append_nil] at h3
    exact ⟨rest, by rw [h1, h3.1], (atEOF_iff rest).mpr (Prod.ext hnil h3.2.symm)⟩

theorem verifyTail_ok {Dig : Type} [DecidableEq Dig] (H : Bytes → Dig) (dg : Dig) (p : Bytes × Reader) (b : Bytes) :
    verifyTail H dg p = .ok b ↔ atEOF p.2 = true ∧ H p.1 = dg ∧ p.1 = b := by
  unfold verifyTail
  cases atEOF p.2 <;> by_cases hh : H p.1 = dg <;> simp [hh]

/-- `delivered r = (b, true)` covers any chunking, zero-length reads, and EOF piggy-backed on the last
    chunk or not. -/
theorem pull_verifyTail_ok {Dig : Type} [DecidableEq Dig] (H : Bytes → Dig) (dg : Dig) (r : Reader) (n : Nat)
    (b : Bytes) :
    (pull r n []).bind (verifyTail H dg) = .ok b ↔ H b = dg ∧ b.length = n ∧ delivered r = (b, true) := by
  constructor
  · intro h
    have spec := pull_spec r n []
    match pull r n [], spec, h with
    | .ok (out, rest), ⟨b', h1, h2, h3⟩, h =>
      obtain ⟨he, hh, rfl⟩ := (verifyTail_ok H dg _ b).mp h
      rw [(atEOF_iff rest).mp he, List.append_nil] at h3
      rw [List.nil_append] at h1
      subst h1
      exact ⟨hh, h2, h3⟩
  · rintro ⟨rfl, hn, hd⟩
    obtain ⟨rest, hp, he⟩ := pull_complete r n [] b hd hn
    rw [hp]
    exact (verifyTail_ok H _ _ b).mpr ⟨he, rfl, rfl⟩

theorem CMap.get_cons {κ : Type} [DecidableEq κ] (m : CMap κ) (k k' : κ) (b : Bytes) :
    CMap.get ((k, b) :: m) k' = if k' = k then some b else CMap.get m k' := by
  by_cases h : k = k' <;> simp [CMap.get, h, eq_comm (a := k')]

theorem ociPush_eq_memPush {Dig : Type} [DecidableEq Dig] (H : Bytes → Dig) (m : CMap Dig) (d : VDesc Dig)
    (r : Reader) (dg : Dig) (h : d.dig = some dg) : ociPush H m d r = memPush H m dg d r := by
  unfold ociPush memPush
  rw [h]
  rfl

end Oras
