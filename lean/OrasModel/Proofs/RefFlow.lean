/-
  Lemmas about the referrers-index flow model (`Model/RefFlow.lean`): what `commit` and
  `updateIndex` leave under the tag, and what `push` and `delete` make of the stored referrers
  and of the listing under every fault.
-/
import OrasModel.Model.RefFlow
import OrasModel.Model.Basic
namespace Oras.RefFlow

theorem commit_live (skipGC emptyOnFail : Bool) (f : Fault) (r : Reg) (new : List Nat) :
    (commit skipGC emptyOnFail f r new).1.live = r.live := by
  simp only [commit, apply_ite Prod.fst, apply_ite Reg.live, ite_self]

theorem commit_err_iff (skipGC emptyOnFail : Bool) (f : Fault) (r : Reg) (new : List Nat) :
    (commit skipGC emptyOnFail f r new).2 = .err ↔ ((!new.isEmpty || skipGC) = true ∧ f = .idxPut) := by
  simp only [commit, apply_ite Prod.snd, apply_ite (· = Out.err), reduceCtorEq, ite_self, if_false_right, and_true]

theorem commit_err_state (skipGC emptyOnFail : Bool) (f : Fault) (r : Reg) (new : List Nat)
    (h : (commit skipGC emptyOnFail f r new).2 = .err) : (commit skipGC emptyOnFail f r new).1 = r := by
  rw [commit_err_iff] at h
  simp only [commit, h, and_self, if_true]

/-- `emptyOnFail = true` is the repaired clean-up path: the new list is under the tag also when
    the old index could not be deleted. -/
theorem commit_listed (skipGC : Bool) (f : Fault) (r : Reg) (new : List Nat)
    (h : (commit skipGC true f r new).2 ≠ .err) : (commit skipGC true f r new).1.listed = new := by
  rw [Ne, commit_err_iff] at h
  by_cases hp : (!new.isEmpty || skipGC) = true
  · -- the new index is pushed, and every later branch keeps `tag := some new`
    simp only [commit, hp, true_and, if_neg (fun e => h ⟨hp, e⟩), if_true, apply_ite Prod.fst, apply_ite Reg.tag, Reg.listed,
      Option.getD_some, ite_self, Bool.not_true, Bool.false_eq_true, false_and, if_false]
  · -- nothing is pushed: `new = []`, GC not skipped; the tag goes, or is left listing nothing
    cases new with
    | cons a l => exact absurd rfl hp
    | nil =>
      cases skipGC with
      | true => exact absurd rfl hp
      | false =>
        cases ht : r.tag <;>
          simp [commit, ht, Reg.listed, apply_ite Prod.fst, apply_ite Reg.tag, apply_ite (Option.getD · ([] : List Nat))]

theorem commit_dangling (r : Reg) (new : List Nat) :
    (commit false true .none r new).1.dangling = r.dangling := by
  cases ht : r.tag <;> cases hn : new.isEmpty <;> simp [commit, ht, hn]

def applyD (old : List Nat) : Change → List Nat
  | .add k => sinsert k old
  | .remove k => old.erase k

theorem applyChange_eq (old : List Nat) (ch : Change) :
    applyChange old ch = none ∧ applyD old ch = old ∨ applyChange old ch = some (applyD old ch) := by
  cases ch with
  | add k => by_cases hk : k ∈ old <;> simp [applyChange, applyD, sinsert, hk]
  | remove k => by_cases hk : k ∈ old <;> simp [applyChange, applyD, hk]

/-- The two outcomes of `updateIndex`: it is refused (the read of the old index or the push of the
    new one fails), reports `err`, not the clean-up error, and nothing has happened; or, with the
    repaired clean-up path, whatever it reports has taken effect. -/
theorem updateIndex_spec (skipGC emptyOnFail : Bool) (f : Fault) (r : Reg) (ch : Change) :
    updateIndex skipGC emptyOnFail f r ch = (r, .err) ∧ (f = .idxGet ∨ f = .idxPut) ∨
    (updateIndex skipGC emptyOnFail f r ch).2 ≠ .err ∧ (updateIndex skipGC emptyOnFail f r ch).1.live = r.live ∧
      (emptyOnFail = true → (updateIndex skipGC emptyOnFail f r ch).1.listed = applyD r.listed ch) := by
  unfold updateIndex
  by_cases hg : f = .idxGet
  · exact .inl ⟨if_pos hg, .inl hg⟩
  rw [if_neg hg]
  rcases applyChange_eq r.listed ch with ⟨h, e⟩ | h <;> rw [h]
  · -- no update needed: nothing is touched, and the changed list is the old one
    exact .inr ⟨nofun, rfl, fun _ => e.symm⟩
  · -- the changed list is committed
    by_cases he : (commit skipGC emptyOnFail f r (applyD r.listed ch)).2 = .err
    · exact .inl ⟨Prod.ext (commit_err_state _ _ _ _ _ he) he, .inr ((commit_err_iff ..).mp he).2⟩
    · exact .inr ⟨he, commit_live .., fun ht => by subst ht; exact commit_listed _ _ _ _ he⟩

theorem updateIndex_dangling (r : Reg) (ch : Change) :
    (updateIndex false true .none r ch).1.dangling = r.dangling := by
  unfold updateIndex
  simp only [reduceCtorEq, if_false]
  split
  · rfl
  · exact commit_dangling _ _

theorem push_eq (skipGC emptyOnFail : Bool) (f : Fault) (r : Reg) (k : Nat) :
    push skipGC emptyOnFail f r k = updateIndex skipGC emptyOnFail f { r with live := sinsert k r.live } (.add k) :=
  rfl

theorem push_effect (skipGC : Bool) (f : Fault) (r : Reg) (k : Nat) :
    (push skipGC true f r k).1.live = sinsert k r.live ∧
    (push skipGC true f r k).1.listed = if (push skipGC true f r k).2 = .err then r.listed else sinsert k r.listed := by
  rw [push_eq]
  rcases updateIndex_spec skipGC true f { r with live := sinsert k r.live } (.add k) with ⟨e, -⟩ | ⟨he, hl, hs⟩
  · rw [e]; exact ⟨rfl, (if_pos rfl).symm⟩
  · rw [if_neg he]; exact ⟨hl, hs rfl⟩

theorem push_no_err (skipGC : Bool) (f : Fault) (hf : f = .none ∨ f = .idxDel) (r : Reg) (k : Nat) :
    (push skipGC true f r k).2 ≠ .err := by
  rw [push_eq]
  rcases updateIndex_spec skipGC true f { r with live := sinsert k r.live } (.add k) with ⟨-, hf'⟩ | ⟨he, -⟩
  · rcases hf with rfl | rfl <;> rcases hf' with h | h <;> cases h
  · exact he

theorem delete_effect (skipGC : Bool) (f : Fault) (r : Reg) (k : Nat) :
    if (delete skipGC true true f r k).2 = .err then (delete skipGC true true f r k).1 = r
    else (delete skipGC true true f r k).1.live = r.live.erase k ∧
         (delete skipGC true true f r k).1.listed = r.listed.erase k := by
  unfold delete
  by_cases hk : k ∉ r.live
  · rw [if_pos hk, if_pos rfl]
  · rw [if_neg hk]
    rcases updateIndex_spec skipGC true f r (.remove k) with ⟨e, -⟩ | ⟨he, hl, hs⟩
    · -- an error of the index update is passed on
      rw [e, if_pos rfl]
    · -- after `ok` and after the clean-up error alike the manifest is deleted, with the index
      -- already updated
      generalize updateIndex skipGC true f r (.remove k) = res at he hl hs
      obtain ⟨r1, out⟩ := res
      cases out
      · exact ⟨congrArg (·.erase k) hl, hs rfl⟩
      · exact absurd rfl he
      · exact ⟨congrArg (·.erase k) hl, hs rfl⟩

end Oras.RefFlow
