/-
  Behind the end-to-end no-lost-update theorem (`Props/C14c.lean`): how `newIdx` acts on the
  presence of a single key, what an acknowledgement promises (`Eff`), and the invariant of the
  batching protocol composed with the index it maintains (`Model/MergeIdx.lean`).
-/
import OrasModel.Model.MergeIdx
import OrasModel.Proofs.Merge
import OrasModel.Proofs.Referrers
namespace Oras
open Oras.Props.C14

/-- After a batch a key stands as the changes naming it say (`v`), provided they agree; a key
    no change names stays. -/
theorem hasKey_newIdx (read : List RDesc) (cs : List RChange) (k : Nat) (v : Bool) (hk : v = true → k ≠ 0)
    (hv : ∀ c ∈ cs, c.desc.key = k → c.isAdd = v)
    (h : hasKey read k = v ∨ ∃ c ∈ cs, c.desc.key = k) :
    hasKey (newIdx read cs) k = v := by
  have hfold : hasKey (cs.foldl applyChange (dedupRefs [] read)) k = v := by
    refine hasKey_foldl k v cs _ hv (h.imp_left fun h => ?_)
    rw [hasKey_dedupRefs, h]
    cases v with
    | false => simp
    | true => simp [hk rfl]
  unfold newIdx
  cases ha : applyReferrerChanges read cs with
  | none => rw [← hasKey_no_update read cs ha]; exact hfold
  | some r => rw [applyReferrerChanges_some ha]; exact hfold

/-- What the acknowledgement of caller `j`'s change promises about the stored index, if all
    callers that name the same referrer agree with `j` on adding or removing it: the
    referrer is listed, or not, as `j` said. -/
def Eff (chg : Nat → RChange) (idx : List RDesc) (j : Nat) : Prop :=
  ((chg j).isAdd = true → (chg j).desc.key ≠ 0) →
  (∀ i, (chg i).desc.key = (chg j).desc.key → (chg i).isAdd = (chg j).isAdd) →
  hasKey idx (chg j).desc.key = (chg j).isAdd

/-- This and the next turn what stands under the `match` of `c14_no_lost_update` into the
    second premise of `Eff`. -/
theorem RChange.isAdd_of_no_remove {c : RChange} {k : Nat} (h : ∀ d', c = .remove d' → d'.key ≠ k)
    (e : c.desc.key = k) : c.isAdd = true := by
  cases c with
  | add _ => rfl
  | remove d' => exact absurd e (h d' rfl)

theorem RChange.not_isAdd_of_no_add {c : RChange} {k : Nat} (h : ∀ d', c = .add d' → d'.key ≠ k)
    (e : c.desc.key = k) : c.isAdd = false := by
  cases c with
  | remove _ => rfl
  | add d' => exact absurd e (h d' rfl)

theorem eff_batch (chg : Nat → RChange) (idx : List RDesc) (items : List Nat) (j : Nat)
    (h : Eff chg idx j ∨ j ∈ items) : Eff chg (newIdx idx (items.map chg)) j := by
  intro hk hv
  refine hasKey_newIdx idx _ _ _ hk ?_ (h.imp (· hk hv) fun hj => ⟨chg j, List.mem_map_of_mem hj, rfl⟩)
  intro c hc
  obtain ⟨i, _, rfl⟩ := List.mem_map.mp hc
  exact hv i

theorem miStep_merge (chg : Nat → RChange) (x y : MI) (h : MIStep chg x y) : MergeStep x.m y.m := by
  cases h with
  | assignOpen i hi hc => exact MergeStep.assignOpen x.m i hi hc
  | assignPending i hi hc => exact MergeStep.assignPending x.m i hi hc
  | takeMain i hi ht => exact MergeStep.takeMain x.m i hi ht
  | prepareOk i hi => exact MergeStep.prepareOk x.m i hi
  | prepareFail i hi => exact MergeStep.prepareFail x.m i hi
  | resolveOk i hi => exact MergeStep.resolveDone x.m i true hi
  | resolveFail i applied hi => exact MergeStep.resolveDone x.m i false hi

theorem MIReach.merge {chg : Nat → RChange} {idx0 : List RDesc} {x : MI} (h : MIReach chg idx0 x) : MergeReach x.m := by
  induction h with
  | init => exact .init
  | step _ st ih => exact .step ih (miStep_merge chg _ _ st)

/-- The invariant of the composed system.  `snapOk`: what the resolving main read in `prepare` is
    still the stored index, since only the one active caller writes it; `acked`: every caller told
    `ok` has its effect in the stored index. -/
structure MIInv (chg : Nat → RChange) (x : MI) : Prop where
  snapOk : ∀ i, x.m.pc i = .resolving x.m.cur → x.snap = x.idx
  acked : ∀ j b, x.m.pc j = .done b true → Eff chg x.idx j

theorem miInv_step (chg : Nat → RChange) (x y : MI) (hs : MergeSched x.m) (inv : MIInv chg x) (st : MIStep chg x y) :
    MIInv chg y := by
  -- after `complete`, nobody is resolving, and whoever is acknowledged was so before or is
  -- a member of the batch
  have noRes : ∀ (ok : Bool) (k b : Nat), (x.m.complete ok).pc k ≠ .resolving b := fun ok k b hk =>
    absurd (congrArg MPC.active hk) (by rw [hs.complete_not_active ok k]; nofun)
  have ackedOr : ∀ (ok : Bool) (j b : Nat), (x.m.complete ok).pc j = .done b true → Eff chg x.idx j ∨ (j ∈ x.m.items ∧ ok = true) :=
    fun ok j b hj => (complete_pc_cases hj).symm.imp (fun h => inv.acked j b h.2) fun h => ⟨h.1, (MPC.done.inj h.2).2⟩
  cases st with
  | assignOpen | assignPending | takeMain =>
    exact ⟨fun k hk => inv.snapOk k (of_upd hk), fun j b hj => inv.acked j b (of_upd hj)⟩
  | prepareOk i hi => exact ⟨fun _ _ => rfl, fun j b hj => inv.acked j b (of_upd hj)⟩
  | prepareFail i hi =>
    exact ⟨fun k hk => absurd hk (noRes false k _), fun j b hj => (ackedOr false j b hj).elim id (nomatch ·.2)⟩
  | resolveOk i hi =>
    refine ⟨fun k hk => absurd hk (noRes true k _), fun j b hj => ?_⟩
    show Eff chg (newIdx x.snap (x.m.items.map chg)) j
    rw [inv.snapOk i hi]
    exact eff_batch chg _ _ j ((ackedOr true j b hj).imp id (·.1))
  | resolveFail i applied hi =>
    refine ⟨fun k hk => absurd hk (noRes false k _), fun j b hj => ?_⟩
    have hold : Eff chg x.idx j := (ackedOr false j b hj).elim id (nomatch ·.2)
    show Eff chg (if applied = true then newIdx x.snap (x.m.items.map chg) else x.idx) j
    split
    · rw [inv.snapOk i hi]; exact eff_batch chg _ _ j (.inl hold)
    · exact hold

theorem miInv_reach (chg : Nat → RChange) (idx0 : List RDesc)
    (x : MI) (h : MIReach chg idx0 x) : MIInv chg x := by
  induction h with
  | init => exact ⟨nofun, nofun⟩
  | step hx st ih => exact miInv_step chg _ _ hx.merge.sched ih st

end Oras
