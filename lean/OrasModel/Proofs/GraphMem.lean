/-
  `graph.Memory` (`Model/GraphMem.lean`): what `index` and `Remove` do to each of the three
  maps, and the invariant the maps keep (C07).
-/
import OrasModel.Model.GraphMem
namespace Oras
namespace GMem

theorem nodes_index (g : GMem) (n : Key) (ss : List Key) (x : Key) :
    (g.index n ss).nodes x = if x = n then true else g.nodes x := rfl

theorem succs_index (g : GMem) (n : Key) (ss : List Key) (x : Key) :
    (g.index n ss).succs x = if x = n then dedup ss else g.succs x := rfl

theorem preds_index (g : GMem) (n : Key) (ss : List Key) (k : Key) :
    (g.index n ss).preds k = if k ∈ ss then sinsert n (g.preds k) else g.preds k := rfl

theorem mem_preds_index (g : GMem) (n : Key) (ss : List Key) (k p : Key) :
    p ∈ (g.index n ss).preds k ↔ (p = n ∧ k ∈ ss) ∨ p ∈ g.preds k := by
  rw [preds_index]
  split <;> simp [*]

theorem nodes_remove (g : GMem) (n x : Key) :
    (g.remove n).1.nodes x = if x = n then false else g.nodes x := rfl

theorem succs_remove (g : GMem) (n x : Key) :
    (g.remove n).1.succs x = if x = n then [] else g.succs x := rfl

theorem preds_remove (g : GMem) (n k : Key) :
    (g.remove n).1.preds k = if k ∈ g.succs n then (g.preds k).erase n else g.preds k := rfl

theorem mem_danglings (g : GMem) (n d : Key) :
    d ∈ (g.remove n).2 ↔ d ∈ g.succs n ∧ (g.remove n).1.preds d = [] ∧ g.nodes d = true := by
  simp [remove, List.mem_filter]

theorem preds_remove_subset (g : GMem) (n k : Key) : (g.remove n).1.preds k ⊆ g.preds k := by
  rw [preds_remove]; split
  · exact List.erase_subset
  · exact fun _ h => h

/-- The invariant the three maps keep, relative to the content-determined successor
    function `succ` (memory.go's field comments, minus "nodes iff in storage", which
    `IndexAll` does not maintain and `Predecessors` does not need). -/
structure Inv (succ : Key → List Key) (g : GMem) : Prop where
  succs_eq : ∀ p, g.succs p = if g.nodes p then dedup (succ p) else []
  preds_exact : ∀ k p, p ∈ g.preds k ↔ (g.nodes p = true ∧ k ∈ succ p)
  preds_nodup : ∀ k, (g.preds k).Nodup

theorem Inv.mem_succs {succ : Key → List Key} {g : GMem} (h : Inv succ g) {p : Key}
    (hp : g.nodes p = true) (k : Key) : k ∈ g.succs p ↔ k ∈ succ p := by
  rw [h.succs_eq, hp, if_pos rfl, mem_dedup]

theorem inv_empty (succ : Key → List Key) : Inv succ GMem.empty :=
  ⟨fun _ => rfl, fun _ _ => by simp [GMem.empty], fun _ => List.nodup_nil⟩

theorem inv_index (succ : Key → List Key) (g : GMem) (n : Key) (h : Inv succ g) :
    Inv succ (g.index n (succ n)) where
  succs_eq p := by
    rw [succs_index, nodes_index, h.succs_eq]
    by_cases e : p = n <;> simp [e]
  preds_exact k p := by
    rw [mem_preds_index, nodes_index, h.preds_exact]
    by_cases e : p = n <;> simp [e]
  preds_nodup k := by
    rw [preds_index]
    split
    · exact nodup_sinsert _ _ (h.preds_nodup k)
    · exact h.preds_nodup k

theorem Inv.mem_preds_remove {succ : Key → List Key} {g : GMem} (h : Inv succ g) (n k p : Key) :
    p ∈ (g.remove n).1.preds k ↔ p ≠ n ∧ p ∈ g.preds k := by
  rw [preds_remove]
  split
  · exact (h.preds_nodup k).mem_erase_iff
  · -- `n` does not link to `k`, so it is not among the predecessors of `k`
    next hk =>
    refine ⟨fun hp => ⟨fun e => ?_, hp⟩, And.right⟩
    have ⟨hn, hkn⟩ := (h.preds_exact k n).mp (e ▸ hp)
    exact hk ((h.mem_succs hn k).mpr hkn)

theorem inv_remove (succ : Key → List Key) (g : GMem) (n : Key) (h : Inv succ g) :
    Inv succ (g.remove n).1 where
  succs_eq p := by
    rw [succs_remove, nodes_remove, h.succs_eq]
    by_cases e : p = n <;> simp [e]
  preds_exact k p := by
    rw [h.mem_preds_remove, nodes_remove, h.preds_exact]
    by_cases e : p = n <;> simp [e]
  preds_nodup k := by
    rw [preds_remove]
    split
    · exact (h.preds_nodup k).erase n
    · exact h.preds_nodup k

theorem inv_run (succ : Key → List Key) (ops : List GOp) : Inv succ (GMem.run succ ops) :=
  List.foldlRecOn ops _ (inv_empty succ) fun g h op _ => by
    cases op
    · exact inv_index succ g _ h
    · exact inv_remove succ g _ h

theorem nodes_run (succ : Key → List Key) (ops : List GOp) (p : Key) :
    (GMem.run succ ops).nodes p = storedSpec ops p :=
  (List.foldl_hom (fun g : GMem => g.nodes p) fun g op => by
    cases op with
    | index n => exact (nodes_index g n _ p).symm
    | remove n => exact (nodes_remove g n p).symm).symm

theorem Inv.mem_danglings {succ : Key → List Key} {g : GMem} (h : Inv succ g) {n : Key}
    (hn : g.nodes n = true) (s : Key) :
    s ∈ (g.remove n).2 ↔
      (s ∈ succ n ∧ g.nodes s = true ∧ ∀ p, p ≠ n → ¬ (g.nodes p = true ∧ s ∈ succ p)) := by
  rw [GMem.mem_danglings, h.mem_succs hn, List.eq_nil_iff_forall_not_mem]
  simp only [h.mem_preds_remove, h.preds_exact]
  exact ⟨fun ⟨h1, h2, h3⟩ => ⟨h1, h3, fun p hp hq => h2 p ⟨hp, hq⟩⟩,
    fun ⟨h1, h2, h3⟩ => ⟨h1, fun p ⟨hp, hq⟩ => h3 p hp hq, h2⟩⟩

end GMem
end Oras
