/-
  The derivative matcher, in two layers.  First its algebra: what `accepts` does on each
  constructor and on `mkAlt`/`mkCat`.  Then the language it is sound for (`Matches`,
  `matches_of_accepts`): the alphabet lemma and the length bounds `minLen`/`maxLen`, which state
  the documented length rules (tags ≤ 128 characters, RFC 6838 names ≤ 127, digest encodings of
  exact length) about the expressions regenerated from the source, are inductions over `Matches`.
-/
import OrasModel.Model.Re
namespace Oras.Re

theorem accepts_empty (s : List Char) : accepts empty s = false := by
  induction s with
  | nil => rfl
  | cons c s ih => exact ih

theorem accepts_eps {s : List Char} (h : accepts eps s = true) : s = [] := by
  cases s with
  | nil => rfl
  | cons c s => rw [accepts, deriv, accepts_empty] at h; cases h

theorem accepts_cls {rs : List (Nat × Nat)} {s : List Char} (h : accepts (cls rs) s = true) :
    ∃ c, s = [c] ∧ inRanges rs c = true := by
  cases s with
  | nil => cases h
  | cons c s =>
    rw [accepts, deriv] at h
    split at h
    · exact ⟨c, by rw [accepts_eps h], ‹_›⟩
    · rw [accepts_empty] at h; cases h

theorem mem_dedupRe (x : Re) (l : List Re) : x ∈ dedupRe l ↔ x ∈ l := by
  induction l with
  | nil => rfl
  | cons y ys ih =>
    unfold dedupRe
    split <;> simp only [ih, List.mem_cons]
    exact ⟨Or.inr, fun h => h.elim (· ▸ ‹y ∈ ys›) id⟩

theorem any_dedupRe (p : Re → Bool) (l : List Re) : (dedupRe l).any p = l.any p := by
  rw [Bool.eq_iff_iff]
  simp only [List.any_eq_true, mem_dedupRe]

/-- For one string: if `alt` means union on it, so do flattening and rebuilding. -/
theorem accepts_alts_of (s : List Char)
    (h2 : ∀ a b : Re, accepts (alt a b) s = (accepts a s || accepts b s)) :
    (∀ r : Re, accepts r s = (alts r).any (fun x => accepts x s)) ∧
    (∀ l : List Re, accepts (ofAlts l) s = l.any (fun x => accepts x s)) := by
  constructor
  · intro r
    induction r with
    | alt a b iha ihb => rw [h2, iha, ihb, alts, List.any_append]
    | empty => rw [accepts_empty]; rfl
    | _ => simp [alts]
  · intro l
    induction l with
    | nil => rw [ofAlts, accepts_empty]; rfl
    | cons r rs ih =>
      cases rs with
      | nil => simp [ofAlts]
      | cons r' rs' =>
        show accepts (alt r (ofAlts (r' :: rs'))) s = _
        rw [h2, ih]; rfl

theorem accepts_mkAlt_of (s : List Char)
    (h2 : ∀ a b : Re, accepts (alt a b) s = (accepts a s || accepts b s)) (a b : Re) :
    accepts (mkAlt a b) s = (accepts a s || accepts b s) := by
  obtain ⟨hA, hB⟩ := accepts_alts_of s h2
  rw [mkAlt, hB, any_dedupRe, List.any_append, ← hA a, ← hA b]

theorem accepts_alt (a b : Re) (s : List Char) :
    accepts (alt a b) s = (accepts a s || accepts b s) := by
  induction s generalizing a b with
  | nil => rfl
  -- the derivative of `alt` is a `mkAlt`, which is a union on the shorter string
  | cons c s ih => exact accepts_mkAlt_of s ih _ _

theorem accepts_mkAlt (a b : Re) (s : List Char) :
    accepts (mkAlt a b) s = (accepts a s || accepts b s) :=
  accepts_mkAlt_of s (fun a b => accepts_alt a b s) a b

theorem accepts_mkCat (a b : Re) (s : List Char) : accepts (mkCat a b) s = accepts (cat a b) s := by
  unfold mkCat
  split
  · -- `cat empty b` accepts nothing either: its derivatives are `empty`
    cases s with
    | nil => rfl
    | cons c s => exact (accepts_empty _).trans (accepts_empty s).symm
  · rfl

theorem accepts_cat_split {a b : Re} {s : List Char} (h : accepts (cat a b) s = true) :
    ∃ s1 s2, s = s1 ++ s2 ∧ accepts a s1 = true ∧ accepts b s2 = true := by
  induction s generalizing a with
  | nil =>
    simp only [accepts, nullable, Bool.and_eq_true] at h
    exact ⟨[], [], rfl, h.1, h.2⟩
  | cons c s ih =>
    rw [accepts, deriv, accepts_mkAlt, Bool.or_eq_true] at h
    rcases h with h | h
    · rw [accepts_mkCat] at h
      obtain ⟨s1, s2, rfl, h1, h2⟩ := ih h
      exact ⟨c :: s1, s2, rfl, h1, h2⟩
    · split at h
      · exact ⟨[], c :: s, rfl, ‹_›, h⟩
      · rw [accepts_empty] at h; cases h

theorem accepts_star_cons {a : Re} {c : Char} {s : List Char} (h : accepts (star a) (c :: s) = true) :
    ∃ s1 s2, s = s1 ++ s2 ∧ accepts a (c :: s1) = true ∧ accepts (star a) s2 = true := by
  rw [accepts, deriv, accepts_mkCat] at h
  exact accepts_cat_split h

theorem accepts_rep_cons {a : Re} {mn mx : Nat} {c : Char} {s : List Char}
    (h : accepts (rep a mn mx) (c :: s) = true) :
    mx ≠ 0 ∧ ∃ s1 s2, s = s1 ++ s2 ∧ accepts a (c :: s1) = true ∧
      accepts (rep a (mn - 1) (mx - 1)) s2 = true := by
  rw [accepts, deriv] at h
  split at h
  · rw [accepts_empty] at h; cases h
  · rw [accepts_mkCat] at h
    exact ⟨‹_›, accepts_cat_split h⟩

/-- The strings an expression stands for, as far as the matcher accepts them: `star` and
    `rep` take one piece at a time, and `rep` with a nullable body accepts the empty string
    whatever its bounds (`repNull`), as `nullable` says. -/
inductive Matches : Re → List Char → Prop
  | eps : Matches eps []
  | cls {rs c} : inRanges rs c = true → Matches (cls rs) [c]
  | cat {a b s t} : Matches a s → Matches b t → Matches (cat a b) (s ++ t)
  | altL {a b s} : Matches a s → Matches (alt a b) s
  | altR {a b s} : Matches b s → Matches (alt a b) s
  | starNil {a} : Matches (star a) []
  | starCons {a s t} : Matches a s → Matches (star a) t → Matches (star a) (s ++ t)
  | repNil {a mn mx} : mn = 0 → Matches (rep a mn mx) []
  | repNull {a mn mx} : Matches a [] → Matches (rep a mn mx) []
  | repCons {a mn mx s t} : mx ≠ 0 → Matches a s → Matches (rep a (mn - 1) (mx - 1)) t →
      Matches (rep a mn mx) (s ++ t)

theorem matches_of_accepts {r : Re} {s : List Char} (h : accepts r s = true) : Matches r s := by
  induction r generalizing s with
  | empty => rw [accepts_empty] at h; cases h
  | eps => rw [accepts_eps h]; exact .eps
  | cls rs => obtain ⟨c, rfl, hc⟩ := accepts_cls h; exact .cls hc
  | cat a b iha ihb =>
    obtain ⟨s1, s2, rfl, h1, h2⟩ := accepts_cat_split h
    exact .cat (iha h1) (ihb h2)
  | alt a b iha ihb =>
    rw [accepts_alt, Bool.or_eq_true] at h
    exact h.elim (fun h => .altL (iha h)) (fun h => .altR (ihb h))
  | star a iha =>
    -- by induction on the length: what follows the first piece is shorter
    induction hn : s.length using Nat.strongRecOn generalizing s with | ind n ih =>
    cases s with
    | nil => exact .starNil
    | cons c s =>
      obtain ⟨s1, s2, rfl, h1, h2⟩ := accepts_star_cons h
      exact .starCons (iha h1) (ih _ (by simp at hn; omega) h2 rfl)
  | rep a mn mx iha =>
    induction hn : s.length using Nat.strongRecOn generalizing s mn mx with | ind n ih =>
    cases s with
    | nil =>
      simp only [accepts, nullable, Bool.or_eq_true, beq_iff_eq] at h
      exact h.elim .repNil fun h => .repNull (iha h)
    | cons c s =>
      obtain ⟨hmx, s1, s2, rfl, h1, h2⟩ := accepts_rep_cons h
      exact .repCons hmx (iha h1) (ih _ (by simp at hn; omega) _ _ h2 rfl)

theorem inRanges_append (a b : List (Nat × Nat)) (c : Char) :
    inRanges (a ++ b) c = (inRanges a c || inRanges b c) := List.any_append

theorem Matches.alphabet {r : Re} {s : List Char} (h : Matches r s) :
    ∀ c ∈ s, inRanges (alphabet r) c = true := by
  induction h with
  | eps | starNil | repNil | repNull => intro c hc; cases hc
  | cls h => intro c hc; rw [List.mem_singleton.mp hc]; exact h
  | cat _ _ iha ihb =>
    intro c hc
    rw [Re.alphabet, inRanges_append, Bool.or_eq_true]
    exact (List.mem_append.mp hc).imp (iha c) (ihb c)
  | altL _ ih => intro c hc; rw [Re.alphabet, inRanges_append, ih c hc]; rfl
  | altR _ ih => intro c hc; rw [Re.alphabet, inRanges_append, ih c hc, Bool.or_true]
  | starCons _ _ iha ihb | repCons _ _ _ iha ihb =>
    intro c hc; exact (List.mem_append.mp hc).elim (iha c) (ihb c)

theorem accepts_alphabet (s : List Char) (r : Re) (h : accepts r s = true) :
    ∀ c ∈ s, inRanges (alphabet r) c = true :=
  (matches_of_accepts h).alphabet

theorem not_mem_of_accepts {r : Re} {s : List Char} {c : Char} (h : accepts r s = true)
    (hc : inRanges (alphabet r) c = false) : c ∉ s :=
  fun hin => Bool.false_ne_true (hc ▸ accepts_alphabet s r h c hin)

/-- Upper bound on the length of an accepted string (`none`: unbounded). -/
def maxLen : Re → Option Nat
  | empty => some 0
  | eps => some 0
  | cls _ => some 1
  | cat a b => match maxLen a, maxLen b with
    | some x, some y => some (x + y)
    | _, _ => none
  | alt a b => match maxLen a, maxLen b with
    | some x, some y => some (max x y)
    | _, _ => none
  | star a => match maxLen a with
    | some 0 => some 0
    | _ => none
  | rep a _ mx => match maxLen a with
    | some x => some (x * mx)
    | none => if mx = 0 then some 0 else none

/-- Lower bound on the length of an accepted string. -/
def minLen : Re → Nat
  | empty => 0
  | eps => 0
  | cls _ => 1
  | cat a b => minLen a + minLen b
  | alt a b => min (minLen a) (minLen b)
  | star _ => 0
  | rep a mn _ => minLen a * mn

def BoundedBy (r : Re) (n : Nat) : Prop := ∀ s, accepts r s = true → s.length ≤ n

theorem Matches.length_le {r : Re} {s : List Char} (h : Matches r s) :
    ∀ n, maxLen r = some n → s.length ≤ n := by
  induction h with
  | eps | starNil | repNil | repNull => intros; exact Nat.zero_le _
  | cls => intro n hn; cases hn; exact Nat.le_refl _
  | cat _ _ iha ihb =>
    intro n hn
    simp only [maxLen] at hn
    split at hn <;> cases hn
    rw [List.length_append]; exact Nat.add_le_add (iha _ ‹_›) (ihb _ ‹_›)
  | altL _ ih | altR _ ih =>
    intro n hn
    simp only [maxLen] at hn
    split at hn <;> cases hn
    have := ih _ ‹_›; omega
  | starCons _ _ iha ihb =>
    -- a bounded `star` has a body that matches only the empty string
    intro n hn
    have hn' := hn
    simp only [maxLen] at hn
    split at hn <;> cases hn
    have := iha 0 ‹_›
    have := ihb 0 hn'
    rw [List.length_append]; omega
  | repCons hmx _ _ iha ihb =>
    intro n hn
    simp only [maxLen] at hn ihb
    split at hn
    · next x hx =>
      cases hn
      have hs := iha x hx
      have ht := ihb _ (by rw [hx])
      rw [Nat.mul_sub_one] at ht
      -- the piece taken off is added back to `x * mx - x`, which is exact as `mx ≠ 0`
      have := Nat.le_mul_of_pos_right x (Nat.pos_of_ne_zero hmx)
      rw [List.length_append]; omega
    · rw [if_neg hmx] at hn; cases hn

theorem maxLen_sound : ∀ (r : Re) (n : Nat), maxLen r = some n → BoundedBy r n :=
  fun _ n hn _ h => (matches_of_accepts h).length_le n hn

theorem Matches.minLen_le {r : Re} {s : List Char} (h : Matches r s) : minLen r ≤ s.length := by
  induction h with
  | eps | starNil | starCons => exact Nat.zero_le _
  | cls => exact Nat.le_refl _
  | cat _ _ iha ihb => rw [List.length_append]; exact Nat.add_le_add iha ihb
  | altL _ ih => exact Nat.le_trans (Nat.min_le_left ..) ih
  | altR _ ih => exact Nat.le_trans (Nat.min_le_right ..) ih
  | repNil h => rw [minLen, h]; exact Nat.le_refl _
  | repNull _ ih => rw [minLen, Nat.le_zero.mp ih, Nat.zero_mul]; exact Nat.le_refl _
  | repCons _ _ _ iha ihb =>
    -- the piece taken off has at least `minLen a` characters, the rest at least
    -- `minLen a * mn - minLen a` (which also covers `mn = 0`)
    rw [minLen, Nat.mul_sub_one] at ihb
    rw [List.length_append, minLen]; omega

theorem minLen_sound : ∀ (r : Re) (s : List Char), accepts r s = true → minLen r ≤ s.length :=
  fun _ _ h => (matches_of_accepts h).minLen_le

/-- Both bounds at once, with the two numbers computed by the caller. -/
theorem length_bounds {r : Re} {s : List Char} {lo hi : Nat} (h : accepts r s = true)
    (hlo : minLen r = lo) (hhi : maxLen r = some hi) : lo ≤ s.length ∧ s.length ≤ hi :=
  ⟨hlo ▸ minLen_sound r s h, maxLen_sound r hi hhi s h⟩

end Oras.Re
