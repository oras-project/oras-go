/-
  The auth client's request flow, once for both token caches (C16).

  `Model/Auth.lean` (`authFlow`, the shared cache) and `Model/AuthFb.lean` (`authFlowF`, the
  single-context cache) are the same `Client.Do` over two ways of looking a token up and storing
  it.  `CacheOps.flow` is that flow over any such pair; what C16 claims of one `Do` is proved of
  it, from two facts about the pair (`CacheOps.HostKeyed`).  `CacheInv` and `OutOk` are in the
  namespace of `Props/C16*.lean`, whose statements use them.
-/
import OrasModel.Model.Auth
import OrasModel.Model.AuthFb
import OrasModel.Proofs.Basic

namespace Oras.Props.C16
open Oras

/-- Every cached token sits under the host it was obtained for. -/
def CacheInv (c : ACache) : Prop := ∀ p ∈ c, ∀ kt ∈ p.2.tokens, kt.2.host = p.1

/-- What one emitted request is allowed to carry. -/
def OutOk (i : DoIn) (o : Out) : Prop :=
  match o.sec with
  | none => True
  | some s =>
    s.host = i.host ∧
    match o.kind with
    | .registry => o.to = i.host
    | .tokenFetch => (s = .pw i.host ∨ s = .rt i.host) ∧ ∃ key, i.r1 = .bearer o.to key

end Oras.Props.C16

namespace Oras
open Props.C16

/-- The token cache as `Client.Do` uses it: `GetToken` and `Set` of `auth/cache.go`.  Its two
    flavours are `shared` (`concurrentCache`) and `single` (`fallbackCache`, which also keeps a
    per-registry entry); `authFlow` and `authFlowF` are `flow` at these two, by `rfl`. -/
structure CacheOps where
  get : ACache → Host → AScheme → ScopeKey → Option Sec
  set : ACache → Host → AScheme → ScopeKey → Sec → ACache

namespace CacheOps

def first (k : CacheOps) (c : ACache) (i : DoIn) : Option Sec × Option ScopeKey :=
  match c.entry i.host with
  | some e => (match e.scheme with
      | .basic => (k.get c i.host .basic 0, none)
      | .bearer => (k.get c i.host .bearer i.hintKey, some i.hintKey))
  | none => (none, none)

def retry (k : CacheOps) (c : ACache) (i : DoIn) (attemptedKey : Option ScopeKey) (key : ScopeKey) :
    List Out × Bool :=
  if some key ≠ attemptedKey then
    match k.get c i.host .bearer key with
    | some t => ([⟨i.host, some t, .registry⟩], decide (i.r2 = .final))
    | none => ([], false)
  else ([], false)

def flow (k : CacheOps) (c : ACache) (i : DoIn) : List Out × ACache :=
  let h := i.host
  let first := k.first c i
  let send1 : Out := ⟨h, first.1, .registry⟩
  match i.r1 with
  | .final => ([send1], c)
  | .unknown => ([send1], c)
  | .basic =>
    if i.cred.hasPw then
      ([send1, ⟨h, some (.pw h), .registry⟩], k.set c h .basic 0 (.pw h))
    else ([send1], c)
  | .bearer realm key =>
    let retry := k.retry c i first.2 key
    if retry.2 then (send1 :: retry.1, c)
    else if i.cred.hasAt then
      (send1 :: retry.1 ++ [⟨h, some (.at_ h), .registry⟩], k.set c h .bearer key (.at_ h))
    else
      let fetch : Out := ⟨realm, carriedSecret i, .tokenFetch⟩
      match i.fetchOk with
      | none => (send1 :: retry.1 ++ [fetch], c)
      | some id => (send1 :: retry.1 ++ [fetch, ⟨h, some (.tok h id), .registry⟩], k.set c h .bearer key (.tok h id))

end CacheOps

def shared : CacheOps := ⟨ACache.getToken, ACache.set⟩
def single : CacheOps := ⟨ACache.getTokenF, ACache.setF⟩

theorem authFlow_eq : authFlow = shared.flow := rfl
theorem authFlowF_eq : authFlowF = single.flow := rfl

structure CacheOps.HostKeyed (k : CacheOps) : Prop where
  get_host : ∀ {c h s key t}, CacheInv c → k.get c h s key = some t → t.host = h
  set_inv : ∀ {c} h s key {t}, CacheInv c → t.host = h → CacheInv (k.set c h s key t)

theorem getToken_host {c : ACache} (hc : CacheInv c) {h : Host} {s : AScheme} {k : ScopeKey} {t : Sec}
    (hg : c.getToken h s k = some t) : t.host = h := by
  revert hg
  fun_cases ACache.getToken c h s k <;> intro hg
  -- the one path that gives a token: it is in the entry of `h`
  case case1 e he _ =>
    obtain ⟨kt, hf, rfl⟩ := Option.map_eq_some_iff.mp hg
    exact hc (h, e) (assoc_mem_of_find he) kt (List.mem_of_find?_eq_some hf)
  all_goals cases hg

theorem cacheInv_set {c : ACache} (hc : CacheInv c) (h : Host) (s : AScheme) (k : ScopeKey) (t : Sec)
    (ht : t.host = h) : CacheInv (c.set h s k t) := by
  intro p hp kt hkt
  rcases List.mem_cons.mp hp with rfl | hp
  · rcases List.mem_cons.mp hkt with rfl | hkt
    · exact ht
    · -- a token `h` had before
      split at hkt
      · rename_i e he
        split at hkt
        · exact hc (h, e) (assoc_mem_of_find he) kt (List.mem_filter.mp hkt).1
        · cases hkt
      · cases hkt
  · exact hc p (List.mem_filter.mp hp).1 kt hkt

theorem shared_hostKeyed : shared.HostKeyed :=
  ⟨fun hc hg => getToken_host hc hg, fun h s k _ hc ht => cacheInv_set hc h s k _ ht⟩

theorem single_hostKeyed : single.HostKeyed where
  get_host := by
    intro c h s key t hc hg
    simp only [single, ACache.getTokenF] at hg
    split at hg
    · rename_i t' h1; cases hg; exact getToken_host hc h1
    · exact getToken_host hc hg
  set_inv h s key _ hc ht := cacheInv_set (cacheInv_set hc h s key _ ht) h s 0 _ ht

theorem outOk_registry {i : DoIn} {sec : Option Sec} (h : ∀ s, sec = some s → s.host = i.host) :
    OutOk i ⟨i.host, sec, .registry⟩ := by
  cases sec with
  | none => trivial
  | some s => exact ⟨h s rfl, rfl⟩

theorem outOk_fetch {i : DoIn} {realm : Host} {key : ScopeKey} (hr : i.r1 = .bearer realm key) :
    OutOk i ⟨realm, carriedSecret i, .tokenFetch⟩ := by
  unfold OutOk
  -- the fetch is anonymous, or carries the password or the refresh token of this host
  fun_cases carriedSecret i
  case case1 => trivial
  case case2 | case4 => exact ⟨rfl, .inl rfl, key, hr⟩
  case case3 => exact ⟨rfl, .inr rfl, key, hr⟩

namespace CacheOps
variable (k : CacheOps) (c : ACache) (i : DoIn)

theorem first_get {s : Sec} (h : (k.first c i).1 = some s) : ∃ sch key, k.get c i.host sch key = some s := by
  revert h
  fun_cases first k c i <;> intro h
  case case1 | case2 => exact ⟨_, _, h⟩
  case case3 => cases h

theorem retry_cases (ak : Option ScopeKey) (key : ScopeKey) :
    k.retry c i ak key = ([], false) ∨
    ∃ t, k.get c i.host .bearer key = some t ∧
      k.retry c i ak key = ([⟨i.host, some t, .registry⟩], decide (i.r2 = .final)) := by
  fun_cases retry k c i ak key
  case case1 t ht => exact .inr ⟨t, ht, rfl⟩
  case case2 | case3 => exact .inl rfl

theorem flow_ok (hk : k.HostKeyed) (hc : CacheInv c) :
    (∀ o ∈ (k.flow c i).1, OutOk i o) ∧ CacheInv (k.flow c i).2 := by
  open List in
  -- a send to the registry may carry a secret of this host:
  have hnew {s : Sec} (hs : s.host = i.host) : OutOk i ⟨i.host, some s, .registry⟩ :=
    outOk_registry fun _ e => Option.some.inj e ▸ hs
  -- such is the token the cache gives for the first send, and for the retry under the challenge's scopes,
  have h1 : OutOk i ⟨i.host, (k.first c i).1, .registry⟩ :=
    outOk_registry fun s hs => let ⟨_, _, hg⟩ := k.first_get c i hs; hk.get_host hc hg
  have hpre (key) : ∀ o ∈ ⟨i.host, (k.first c i).1, .registry⟩ :: (k.retry c i (k.first c i).2 key).1, OutOk i o := by
    refine forall_mem_cons.2 ⟨h1, ?_⟩
    rcases k.retry_cases c i (k.first c i).2 key with h | ⟨t, hg, h⟩ <;> rw [h]
    · exact fun _ ho => nomatch ho
    · exact forall_mem_singleton.2 (hnew (hk.get_host hc hg))
  -- and such is every secret newly sent, which is then stored under this host
  have hset {s key t} (ht : t.host = i.host) : CacheInv (k.set c i.host s key t) := hk.set_inv _ _ _ hc ht
  -- the paths of `flow`: 1 final, 2 unknown, 3 basic with password, 4 basic without, 5 the retry
  -- ended it, 6 access token, 7 fetch failed, 8 fetched
  fun_cases flow k c i
  case case1 | case2 | case4 => exact ⟨forall_mem_singleton.2 h1, hc⟩
  case case3 => exact ⟨forall_mem_cons.2 ⟨h1, forall_mem_singleton.2 (hnew rfl)⟩, hset rfl⟩
  case case5 => exact ⟨hpre _, hc⟩
  case case6 => exact ⟨forall_mem_append.2 ⟨hpre _, forall_mem_singleton.2 (hnew rfl)⟩, hset rfl⟩
  case case7 => exact ⟨forall_mem_append.2 ⟨hpre _, forall_mem_singleton.2 (outOk_fetch ‹_›)⟩, hc⟩
  case case8 =>
    exact ⟨forall_mem_append.2 ⟨hpre _, forall_mem_cons.2 ⟨outOk_fetch ‹_›, forall_mem_singleton.2 (hnew rfl)⟩⟩, hset rfl⟩

theorem history_ok (hk : k.HostKeyed) (calls : List DoIn) (hc : CacheInv c) :
    let run := calls.foldl (fun (acc : List (DoIn × Out) × ACache) i =>
      let r := k.flow acc.2 i
      (acc.1 ++ r.1.map (fun o => (i, o)), r.2)) ([], c)
    (∀ io ∈ run.1, OutOk io.1 io.2) ∧ CacheInv run.2 :=
  List.foldlRecOn calls _
    (motive := fun acc : List (DoIn × Out) × ACache => (∀ io ∈ acc.1, OutOk io.1 io.2) ∧ CacheInv acc.2)
    ⟨fun _ h => (nomatch h), hc⟩ fun acc ⟨h1, h2⟩ i _ =>
      have ⟨ho, hc'⟩ := k.flow_ok acc.2 i hk h2
      ⟨List.forall_mem_append.2 ⟨h1, List.forall_mem_map.2 ho⟩, hc'⟩

theorem flow_bounded :
    ((k.flow c i).1.filter (·.kind = .registry)).length ≤ 3 ∧
    ((k.flow c i).1.filter (·.kind = .tokenFetch)).length ≤ 1 := by
  -- paths numbered as in `flow_ok`: 1–4 without a Bearer challenge, at most two sends
  fun_cases flow k c i with
  | case1 | case2 | case3 | case4 => simp +zetaDelta
  -- 5–8 after a Bearer challenge: with the cached-token retry written out, every path is a list
  -- of at most four sends
  | case5 _ _ _ _ key | case6 _ _ _ _ key | case7 _ _ _ _ key | case8 _ _ _ _ key =>
    rcases k.retry_cases c i (k.first c i).2 key with h | ⟨t, -, h⟩ <;> simp +zetaDelta [h]

end CacheOps

end Oras
