/-
  `graph.Memory.IndexAll` (`Model/GraphMem.lean` `indexAllAux`): the depth-first indexing a
  store runs when it loads `index.json` and when `GC` rebuilds the graph is sound and
  complete — every node reachable from the roots through manifests whose bytes are present
  is indexed with all its edges, given fuel above the roots' rank, and nothing else is.
-/
import OrasModel.Proofs.GraphMem
namespace Oras
namespace GMem

theorem indexAllAux_nil (succOf : Key → Option (List Key)) (fuel : Nat) (acc : GMem × List Key) :
    indexAllAux succOf fuel [] acc = acc := by
  unfold indexAllAux; rfl

theorem indexAllAux_zero (succOf : Key → Option (List Key)) (l : List Key) (acc : GMem × List Key) :
    indexAllAux succOf 0 l acc = acc := by
  cases l <;> (unfold indexAllAux; rfl)

theorem indexAllAux_visited (succOf : Key → Option (List Key)) {fuel : Nat} {n : Key} {rest : List Key}
    {g : GMem} {vis : List Key} (h : n ∈ vis) :
    indexAllAux succOf (fuel + 1) (n :: rest) (g, vis) = indexAllAux succOf (fuel + 1) rest (g, vis) := by
  rw [indexAllAux, if_pos h]

theorem indexAllAux_unreadable (succOf : Key → Option (List Key)) {fuel : Nat} {n : Key} {rest : List Key}
    {g : GMem} {vis : List Key} (h : n ∉ vis) (hs : succOf n = none) :
    indexAllAux succOf (fuel + 1) (n :: rest) (g, vis) = indexAllAux succOf (fuel + 1) rest (g, n :: vis) := by
  rw [indexAllAux, if_neg h, hs]

theorem indexAllAux_readable (succOf : Key → Option (List Key)) {fuel : Nat} {n : Key} {rest : List Key}
    {g : GMem} {vis ss : List Key} (h : n ∉ vis) (hs : succOf n = some ss) :
    indexAllAux succOf (fuel + 1) (n :: rest) (g, vis) =
      indexAllAux succOf (fuel + 1) rest (indexAllAux succOf fuel ss (g.index n ss, n :: vis)) := by
  rw [indexAllAux, if_neg h, hs]

/-- The rank function witnesses acyclicity of the readable part of the DAG. -/
def RankOK (succOf : Key → Option (List Key)) (rk : Key → Nat) : Prop :=
  ∀ n ss, succOf n = some ss → ∀ k ∈ ss, rk k < rk n

/-- What one call of `indexAllAux` guarantees about its result.  `roots` and `closed` say that
    the walk gets everywhere, which takes fuel: they alone assume a rank (the readable part is
    acyclic) that stays below the fuel on `l`.  The other fields hold for every fuel; with the
    assumption inside the two, one induction gives all of them. -/
structure AuxSpec (succOf : Key → Option (List Key)) (rk : Key → Nat) (fuel : Nat) (l : List Key)
    (g : GMem) (vis : List Key) (g' : GMem) (vis' : List Key) : Prop where
  /-- the tracker only grows -/
  mono : ∀ x ∈ vis, x ∈ vis'
  /-- the graph keeps its nodes … -/
  keepNodes : ∀ x, g.nodes x = true → g'.nodes x = true
  /-- … and its edges -/
  keepPreds : ∀ k p, p ∈ g.preds k → p ∈ g'.preds k
  /-- every element of the list ends visited -/
  roots : RankOK succOf rk → (∀ n ∈ l, rk n < fuel) → ∀ n ∈ l, n ∈ vis'
  /-- a newly visited readable node has all its links visited -/
  closed : RankOK succOf rk → (∀ n ∈ l, rk n < fuel) → ∀ n ∈ vis', n ∉ vis → ∀ ss, succOf n = some ss → ∀ k ∈ ss, k ∈ vis'
  /-- a newly visited readable node is indexed with its edges -/
  edges : ∀ n ∈ vis', n ∉ vis → ∀ ss, succOf n = some ss → g'.nodes n = true ∧ ∀ k ∈ ss, n ∈ g'.preds k
  /-- the result is the old graph after some `index n ss` steps with `succOf n = some ss` -/
  pres : ∀ P : GMem → Prop, (∀ g n ss, succOf n = some ss → P g → P (g.index n ss)) → P g → P g'

/-- Reachability from `r` through manifests whose successors can be read. -/
inductive ReachOf (succOf : Key → Option (List Key)) (r : Key) : Key → Prop
  | refl : ReachOf succOf r r
  | step {m k : Key} {ss : List Key} : ReachOf succOf r m → succOf m = some ss → k ∈ ss → ReachOf succOf r k

theorem indexAllAux_steps (succOf : Key → Option (List Key)) (R : Key → Prop)
    (hR : ∀ n ss, R n → succOf n = some ss → ∀ k ∈ ss, R k)
    (P : GMem → Prop) (hP : ∀ g n ss, R n → succOf n = some ss → P g → P (g.index n ss)) :
    ∀ (fuel : Nat) (l : List Key) (acc : GMem × List Key), (∀ n ∈ l, R n) → P acc.1 →
      P (indexAllAux succOf fuel l acc).1 := by
  intro fuel l acc
  induction fuel, l, acc using GMem.indexAllAux.induct succOf with
  | case1 x acc => intro _ h; rwa [indexAllAux_nil]
  | case2 head tail acc => intro _ h; rwa [indexAllAux_zero]
  | case3 fuel n rest g visited hvis ih =>
    intro hl h
    rw [indexAllAux_visited succOf hvis]
    exact ih (fun x hx => hl x (List.mem_cons_of_mem _ hx)) h
  | case4 fuel n rest g visited hvis hnone ih =>
    intro hl h
    rw [indexAllAux_unreadable succOf hvis hnone]
    exact ih (fun x hx => hl x (List.mem_cons_of_mem _ hx)) h
  | case5 fuel n rest g visited hvis ss hsome acc' ih1 ih2 =>
    intro hl h
    rw [indexAllAux_readable succOf hvis hsome]
    have hn := hl n List.mem_cons_self
    exact ih2 (fun x hx => hl x (List.mem_cons_of_mem _ hx)) (ih1 (hR n ss hn hsome) (hP g n ss hn hsome h))

theorem indexAllAux_spec (succOf : Key → Option (List Key)) (rk : Key → Nat) :
    ∀ (fuel : Nat) (l : List Key) (acc : GMem × List Key),
      AuxSpec succOf rk fuel l acc.1 acc.2 (indexAllAux succOf fuel l acc).1 (indexAllAux succOf fuel l acc).2 := by
  intro fuel l acc
  induction fuel, l, acc using GMem.indexAllAux.induct succOf with
  | case1 x acc =>
    rw [indexAllAux_nil]
    exact ⟨fun _ h => h, fun _ h => h, fun _ _ h => h, fun _ _ n hn => (nomatch hn),
      fun _ _ n hn hn' => absurd hn hn', fun n hn hn' => absurd hn hn', fun _ _ h => h⟩
  | case2 head tail acc =>
    rw [indexAllAux_zero]
    exact ⟨fun _ h => h, fun _ h => h, fun _ _ h => h,
      fun _ hf n hn => absurd (hf head List.mem_cons_self) (Nat.not_lt_zero _),
      fun _ _ n hn hn' => absurd hn hn', fun n hn hn' => absurd hn hn', fun _ _ h => h⟩
  | case3 fuel n rest g visited hvis ih =>
    rw [indexAllAux_visited succOf hvis]
    exact ⟨ih.mono, ih.keepNodes, ih.keepPreds,
      fun hrk hf => List.forall_mem_cons.mpr
        ⟨ih.mono n hvis, ih.roots hrk (List.forall_mem_cons.mp hf).2⟩,
      fun hrk hf => ih.closed hrk (List.forall_mem_cons.mp hf).2, ih.edges, ih.pres⟩
  | case4 fuel n rest g visited hvis hnone ih =>
    rw [indexAllAux_unreadable succOf hvis hnone]
    -- a node that is new and readable is not `n`, so it is new for the rest as well
    have new : ∀ {x ss}, x ∉ visited → succOf x = some ss → x ∉ n :: visited := fun hxv hs h =>
      (List.mem_cons.mp h).elim (fun e => by rw [e, hnone] at hs; cases hs) hxv
    exact ⟨fun x hx => ih.mono x (List.mem_cons_of_mem _ hx), ih.keepNodes, ih.keepPreds,
      fun hrk hf => List.forall_mem_cons.mpr
        ⟨ih.mono n List.mem_cons_self, ih.roots hrk (List.forall_mem_cons.mp hf).2⟩,
      fun hrk hf x hx hxv ss hs => ih.closed hrk (List.forall_mem_cons.mp hf).2 x hx (new hxv hs) ss hs,
      fun x hx hxv ss hs => ih.edges x hx (new hxv hs) ss hs, ih.pres⟩
  | case5 fuel n rest g visited hvis ss hsome acc' ih1 ih2 =>
    rw [indexAllAux_readable succOf hvis hsome]
    have hfs : RankOK succOf rk → (∀ y ∈ n :: rest, rk y < fuel + 1) → ∀ k ∈ ss, rk k < fuel :=
      fun hrk hf k hk => Nat.lt_of_lt_of_le (hrk n ss hsome k hk) (Nat.le_of_lt_succ (hf n List.mem_cons_self))
    have hn1 : n ∈ acc'.2 := ih1.mono n List.mem_cons_self
    have new : ∀ {x}, x ∉ visited → x ≠ n → x ∉ n :: visited := fun hxv e h => (List.mem_cons.mp h).elim e hxv
    -- a node new in the result is `n`, or new in the call on the links of `n`, or new in the call on
    -- the rest of the list: `closed` and `edges` go through these three cases
    refine ⟨fun x hx => ih2.mono x (ih1.mono x (List.mem_cons_of_mem _ hx)),
      fun x hx => ih2.keepNodes x (ih1.keepNodes x (by rw [nodes_index]; split; rfl; exact hx)),
      fun k p hp => ih2.keepPreds k p (ih1.keepPreds k p ((mem_preds_index ..).mpr (.inr hp))),
      fun hrk hf => List.forall_mem_cons.mpr ⟨ih2.mono n hn1, ih2.roots hrk (List.forall_mem_cons.mp hf).2⟩,
      ?_, ?_, fun P hP hg => ih2.pres P hP (ih1.pres P hP (hP g n ss hsome hg))⟩
    · intro hrk hf x hx hxv ss' hs k hk
      by_cases hx1 : x ∈ acc'.2
      · refine ih2.mono k ?_
        by_cases e : x = n
        · rw [e, hsome] at hs; cases hs
          exact ih1.roots hrk (hfs hrk hf) k hk
        · exact ih1.closed hrk (hfs hrk hf) x hx1 (new hxv e) ss' hs k hk
      · exact ih2.closed hrk (List.forall_mem_cons.mp hf).2 x hx hx1 ss' hs k hk
    · intro x hx hxv ss' hs
      by_cases hx1 : x ∈ acc'.2
      · have : (acc'.1.nodes x = true ∧ ∀ k ∈ ss', x ∈ acc'.1.preds k) := by
          by_cases e : x = n
          · rw [e, hsome] at hs; cases hs
            exact ⟨ih1.keepNodes x (by simp [nodes_index, e]),
              fun k hk => ih1.keepPreds k x ((mem_preds_index ..).mpr (.inl ⟨e, hk⟩))⟩
          · exact ih1.edges x hx1 (new hxv e) ss' hs
        exact ⟨ih2.keepNodes x this.1, fun k hk => ih2.keepPreds k x (this.2 k hk)⟩
      · exact ih2.edges x hx hx1 ss' hs

theorem indexAll_complete (succOf : Key → Option (List Key)) (rk : Key → Nat)
    (hrk : RankOK succOf rk)
    (g : GMem) (root : Key) (fuel : Nat) (hfuel : rk root < fuel) (m : Key) (ss : List Key)
    (hreach : ReachOf succOf root m) (hs : succOf m = some ss) :
    (indexAll succOf fuel g root).nodes m = true ∧ ∀ k ∈ ss, m ∈ (indexAll succOf fuel g root).preds k := by
  have spec := indexAllAux_spec succOf rk fuel [root] (g, [])
  have hf : ∀ n ∈ [root], rk n < fuel := fun n hn => List.mem_singleton.mp hn ▸ hfuel
  have hvis : ∀ x, ReachOf succOf root x → x ∈ (indexAllAux succOf fuel [root] (g, [])).2 := by
    intro x hx
    induction hx with
    | refl => exact spec.roots hrk hf root List.mem_cons_self
    | step _ hsm hk ih => exact spec.closed hrk hf _ ih List.not_mem_nil _ hsm _ hk
  exact spec.edges m (hvis m hreach) List.not_mem_nil ss hs

theorem indexAll_nodes_sound (succOf : Key → Option (List Key)) (fuel : Nat) (g : GMem) (root x : Key)
    (h : (indexAll succOf fuel g root).nodes x = true) : g.nodes x = true ∨ ReachOf succOf root x := by
  refine indexAllAux_steps succOf (ReachOf succOf root) (fun _ _ hn hs _ hk => .step hn hs hk)
    (fun g' => g'.nodes x = true → g.nodes x = true ∨ ReachOf succOf root x) ?_ fuel [root] (g, [])
    (by simp [ReachOf.refl]) Or.inl h
  intro g' n ss hn _ ih hx
  rw [nodes_index] at hx
  split at hx
  · subst x; exact Or.inr hn
  · exact ih hx

theorem indexAll_preserves (succOf : Key → Option (List Key)) (g : GMem) (root : Key) (fuel : Nat)
    (P : GMem → Prop) (hP : ∀ g n ss, succOf n = some ss → P g → P (g.index n ss)) (hg : P g) :
    P (indexAll succOf fuel g root) :=
  indexAllAux_steps succOf (fun _ => True) (fun _ _ _ _ _ _ => trivial) P (fun g n ss _ => hP g n ss)
    fuel [root] (g, []) (fun _ _ => trivial) hg

theorem indexAll_keeps (succOf : Key → Option (List Key)) (g : GMem) (root : Key) (fuel : Nat) :
    (∀ x, g.nodes x = true → (indexAll succOf fuel g root).nodes x = true) ∧
    (∀ k p, p ∈ g.preds k → p ∈ (indexAll succOf fuel g root).preds k) :=
  indexAll_preserves succOf g root fuel
    (fun g' => (∀ x, g.nodes x = true → g'.nodes x = true) ∧ ∀ k p, p ∈ g.preds k → p ∈ g'.preds k)
    (fun g' n ss _ h => ⟨fun x hx => by rw [nodes_index]; split; rfl; exact h.1 x hx,
      fun k p hp => (mem_preds_index ..).mpr (.inr (h.2 k p hp))⟩)
    ⟨fun _ h => h, fun _ _ h => h⟩

/-- `IndexAll` from one root after the other (`loadIndex`, `gcIndex`). -/
def indexRoots (succOf : Key → Option (List Key)) (fuel : Nat) (roots : List Key) (g : GMem) : GMem :=
  roots.foldl (indexAll succOf fuel) g

theorem indexRoots_keeps (succOf : Key → Option (List Key)) (fuel : Nat) (roots : List Key) (g : GMem) :
    (∀ x, g.nodes x = true → (indexRoots succOf fuel roots g).nodes x = true) ∧
    (∀ k p, p ∈ g.preds k → p ∈ (indexRoots succOf fuel roots g).preds k) :=
  List.foldlRecOn roots _
    (motive := fun g' => (∀ x, g.nodes x = true → g'.nodes x = true) ∧ ∀ k p, p ∈ g.preds k → p ∈ g'.preds k)
    ⟨fun _ h => h, fun _ _ h => h⟩ fun g' ih r _ =>
      have k := indexAll_keeps succOf g' r fuel
      ⟨fun x h => k.1 x (ih.1 x h), fun x p h => k.2 x p (ih.2 x p h)⟩

theorem indexRoots_preserves (succOf : Key → Option (List Key)) (fuel : Nat) (roots : List Key) (g : GMem)
    (P : GMem → Prop) (hP : ∀ g n ss, succOf n = some ss → P g → P (g.index n ss)) (hg : P g) :
    P (indexRoots succOf fuel roots g) :=
  List.foldlRecOn roots _ (motive := P) hg fun g' ih r _ => indexAll_preserves succOf g' r fuel P hP ih

theorem indexRoots_nodes_sound (succOf : Key → Option (List Key)) (fuel : Nat) (roots : List Key) (g : GMem)
    (x : Key) :
    (indexRoots succOf fuel roots g).nodes x = true → g.nodes x = true ∨ ∃ r ∈ roots, ReachOf succOf r x :=
  List.foldlRecOn roots _
    (motive := fun g' => g'.nodes x = true → g.nodes x = true ∨ ∃ r ∈ roots, ReachOf succOf r x)
    Or.inl fun g' ih r hr h => (indexAll_nodes_sound succOf fuel g' r x h).elim ih fun h => Or.inr ⟨r, hr, h⟩

theorem indexRoots_complete (succOf : Key → Option (List Key)) (rk : Key → Nat) (hrk : RankOK succOf rk)
    (fuel : Nat) (roots : List Key) (g : GMem) (hf : ∀ r ∈ roots, rk r < fuel) {r m : Key} {ss : List Key} (hr : r ∈ roots)
    (hreach : ReachOf succOf r m) (hs : succOf m = some ss) :
    (indexRoots succOf fuel roots g).nodes m = true ∧ ∀ k ∈ ss, m ∈ (indexRoots succOf fuel roots g).preds k := by
  -- indexed from `r`, kept by the roots after it
  obtain ⟨pre, post, rfl⟩ := List.append_of_mem hr
  have h1 := indexAll_complete succOf rk hrk (indexRoots succOf fuel pre g) r fuel (hf r hr) m ss hreach hs
  have k := indexRoots_keeps succOf fuel post (indexAll succOf fuel (indexRoots succOf fuel pre g) r)
  rw [indexRoots, List.foldl_append]
  exact ⟨k.1 m h1.1, fun x hx => k.2 x m (h1.2 x hx)⟩

end GMem
end Oras
