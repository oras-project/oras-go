/-
  Lemmas for `Model/LinkFS.lean`: a path none of whose prefixes is a link resolves to its own
  lexical location; the name check and the removal of a link at the entry's own path establish
  that condition for every path an entry resolves, and `os.MkdirAll` keeps it, so the
  extraction steps touch nothing outside.
-/
import OrasModel.Model.LinkFS
namespace Oras.LinkFS

theorem walk_lexical (fs : FS) : ∀ (rest : Path) (fuel : Nat) (cur : Path),
    (∀ k, k < rest.length → isLink (fs (cur ++ rest.take (k + 1))) = false) →
    walk fs fuel cur rest = .error ∨ walk fs fuel cur rest = .at (cur ++ rest)
  | _, 0, _, _ => .inl rfl
  | [], _ + 1, cur, _ => .inr (by simp [walk])
  | s :: rest, f + 1, cur, h => by
    have h0 : isLink (fs (cur ++ [s])) = false := h 0 (Nat.zero_lt_succ _)
    unfold walk
    split
    · next hk => rw [hk] at h0; cases h0
    · next hk => rw [hk] at h0; cases h0
    · have := walk_lexical fs rest f (cur ++ [s]) fun k hk => by
        simpa [List.append_assoc] using h (k + 1) (Nat.succ_lt_succ hk)
      simpa [List.append_assoc] using this
    -- a file, or nothing: the end of the path, or an error
    all_goals
      split
      · next hr => subst hr; exact .inr rfl
      · exact .inl rfl

theorem resolve_lexical (fs : FS) (p : Path) (h : NoLinkOn fs p) :
    resolve fs p = .error ∨ resolve fs p = .at p := by
  simpa [resolve] using walk_lexical fs p (fuelFor p) [] (by simpa [NoLinkOn] using h)

theorem resolve_ne_outside {fs : FS} {p : Path} (h : NoLinkOn fs p) : resolve fs p ≠ .outside := by
  rcases resolve_lexical fs p h with e | e <;> rw [e] <;> nofun

theorem take_succ_take {p : Path} {j k : Nat} (h : k < j) : (p.take j).take (k + 1) = p.take (k + 1) := by
  rw [List.take_take, Nat.min_eq_left h]

theorem noLinkOn_set (fs : FS) (p q : Path) (kd : Option Kind) (hk : isLink kd = false) (h : NoLinkOn fs p) :
    NoLinkOn (fs.set q kd) p := by
  intro k hkl
  unfold FS.set
  split
  · exact hk
  · exact h k hkl

theorem ancestorsOk_iff (fs : FS) (p : Path) : ancestorsOk fs p = true ↔ NoLinkOn fs p.dropLast := by
  simp only [ancestorsOk, List.all_eq_true, List.mem_range, Bool.not_eq_eq_eq_not, Bool.not_true, NoLinkOn,
    List.dropLast_eq_take, List.length_take]
  constructor
  · intro h k hk; rw [take_succ_take (by omega)]; exact h k (by omega)
  · intro h k hk; rw [← take_succ_take (j := p.length - 1) hk]; exact h k (by omega)

theorem isLink_dropLink (fs : FS) (p q : Path) :
    isLink (dropLink fs p q) = true ↔ q ≠ p ∧ isLink (fs q) = true := by
  unfold dropLink
  split
  · next hl =>
    by_cases e : q = p
    · subst e; simp [FS.set, isLink]
    · simp [FS.set, e]
  · next hl => exact ⟨fun h => ⟨fun e => hl (e ▸ h), h⟩, (·.2)⟩

theorem noLinkOn_dropLink (fs : FS) (p : Path) (h : ancestorsOk fs p = true) : NoLinkOn (dropLink fs p) p := by
  intro k hk
  rw [← Bool.not_eq_true, isLink_dropLink]
  rintro ⟨hne, hl⟩
  -- a prefix other than the path itself is a proper one, and the name check saw it
  have hk' : k < p.length - 1 := Decidable.byContradiction fun hn =>
    hne (by rw [show k + 1 = p.length by omega, List.take_length])
  have := (ancestorsOk_iff fs p).mp h k (by rw [List.length_dropLast]; exact hk')
  rw [List.dropLast_eq_take, take_succ_take hk', hl] at this
  cases this

/-- `os.MkdirAll` makes directories only, so it puts no link on any path; a directory that is there is
    accepted wherever the path leads, not created, so no location outside is recorded. -/
theorem mkdirStep_inv {fs fs' : FS} {tl tl' : List Loc} {p pre : Path}
    (hn : NoLinkOn fs p) (hs : Loc.outside ∉ tl)
    (h : mkdirStep (some (fs, tl)) pre = some (fs', tl')) :
    NoLinkOn fs' p ∧ Loc.outside ∉ tl' := by
  simp only [mkdirStep, Option.bind_some] at h
  split at h
  · split at h
    · cases h; exact ⟨noLinkOn_set fs p _ _ rfl hn, by simp [hs]⟩
    · cases h; exact ⟨hn, hs⟩
    · cases h
  · cases h; exact ⟨hn, hs⟩
  · cases h

theorem mkdirAll_inv {fs fs' : FS} {p q : Path} {created : List Loc} (hn : NoLinkOn fs p)
    (h : mkdirAll fs q = some (fs', created)) : NoLinkOn fs' p ∧ Loc.outside ∉ created := by
  -- a failed step stays failed, so the invariant speaks of the steps that succeeded
  refine List.foldlRecOn (prefixes q) mkdirStep
    (motive := fun acc => ∀ fs' tl', acc = some (fs', tl') → NoLinkOn fs' p ∧ Loc.outside ∉ tl')
    ?_ ?_ fs' created h
  · rintro _ _ ⟨⟩; exact ⟨hn, nofun⟩
  · intro acc ih pre _ fs2 tl2 h2
    match acc with
    | none => cases h2
    | some (fs1, tl1) => exact mkdirStep_inv (ih _ _ rfl).1 (ih _ _ rfl).2 h2

theorem step_reg_some {preserve : Bool} {st st' : St} {p : Path}
    (h : step true preserve st (.reg p) = some st') :
    st' = ⟨(dropLink st.fs p).set p (some .file),
      .at p :: (if isLink (st.fs p) then [Loc.at p] else []) ++ st.touched⟩ := by
  simp only [step, if_true, true_and, Option.ite_none_left_eq_some, Bool.not_eq_true, Bool.not_eq_false'] at h
  obtain ⟨-, ha, h⟩ := h
  rcases resolve_lexical _ p (noLinkOn_dropLink st.fs p ha) with e | e <;> rw [e] at h
  · cases h
  · simp only [Option.ite_none_left_eq_some, Option.some.injEq] at h
    exact h.2.symm

theorem step_safe (preserve : Bool) (st st' : St) (e : Ent) (hs : Loc.outside ∉ st.touched)
    (h : step true preserve st e = some st') : Loc.outside ∉ st'.touched := by
  cases e with
  | reg p => rw [step_reg_some h]; simp [hs]
  | dir p =>
    simp only [step, if_true, true_and, Option.ite_none_left_eq_some, Bool.not_eq_true, Bool.not_eq_false'] at h
    obtain ⟨ha, h⟩ := h
    split at h
    · cases h
    next fs2 created hm =>
    obtain ⟨hn2, hc⟩ := mkdirAll_inv (noLinkOn_dropLink st.fs p ha) hm
    cases h
    have := resolve_ne_outside hn2
    cases preserve <;> simp [hs, hc, Ne.symm this]
  | sym p t =>
    simp only [step, Option.ite_none_left_eq_some, Bool.not_eq_true, Bool.not_eq_false'] at h
    obtain ⟨-, ha, h⟩ := h
    rcases resolve_lexical _ _ ((ancestorsOk_iff st.fs p).mp ha) with e | e <;> rw [e] at h
    · cases h
    · simp only [Option.ite_none_right_eq_some, Option.some.injEq] at h
      rw [← h.2]; simp [hs]

theorem run_safe (preserve : Bool) : ∀ (es : List Ent) (st : St), Loc.outside ∉ st.touched →
    Loc.outside ∉ (run true preserve st es).touched
  | [], _, hs => hs
  | e :: es, st, hs => by
    unfold run
    split
    · exact hs
    · next st' hstep => exact run_safe preserve es st' (step_safe preserve st st' e hs hstep)

end Oras.LinkFS
