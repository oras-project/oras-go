/-
  `gcIndex` and `Store.GC` of the OCI model (C09).  `gcIndex` is reasoned about through one
  induction principle (`gcIndex_induct`): whatever holds of the state the tagged entries give and
  is kept by every indexing of a referrer — an entry of the resolver whose subject chain reaches a
  node of the graph so far — holds of the result.  Which walk, and how many passes, does not matter.
-/
import OrasModel.Proofs.OciDelete
import OrasModel.Proofs.OciReopen
namespace Oras
namespace OciSt

/-- The subject chain from `a` reaches `s` in one or more steps through stored manifests. -/
inductive SubjChain (c : OciCfg) (blobs : List Node) : Node → Node → Prop
  | one {a s : Node} : c.subject a = some s → SubjChain c blobs a s
  | more {a m s : Node} : c.subject a = some m → m ∈ blobs → SubjChain c blobs m s →
      SubjChain c blobs a s

theorem gcWalk_true (c : OciCfg) (blobs : List Node) (g : GMem) :
    ∀ (fuel : Nat) (cur : Node), gcWalk c blobs g fuel cur = .ok true →
      ∃ s, SubjChain c blobs cur s ∧ g.exists_ s = true
  | 0, _, h => nomatch h
  | fuel + 1, cur, h => by
    rw [gcWalk] at h
    split at h
    · cases h
    · next s hs =>
      split at h
      · exact ⟨s, .one hs, ‹_›⟩
      · split at h
        · next hb =>
          obtain ⟨t, hc, ht⟩ := gcWalk_true c blobs g fuel s h
          exact ⟨t, .more hs (List.contains_iff_mem.mp hb) hc, ht⟩
        · cases h

theorem gcWalkBuggy_true (c : OciCfg) (blobs : List Node) (g : GMem) (n : Node)
    (h : gcWalkBuggy c g n = .ok true) : ∃ s, SubjChain c blobs n s ∧ g.exists_ s = true := by
  rw [gcWalkBuggy] at h
  split at h
  · cases h
  · next s hs =>
    split at h
    · exact ⟨s, .one hs, ‹_›⟩
    · cases h

theorem gcTagFold_graph (c : OciCfg) (B : List Node) (fuel : Nat) (named : List (RefKey × Node × Nat))
    (s : OciSt) :
    (named.foldl (gcTagStep c B fuel) s).graph =
      GMem.indexRoots (succOf c B) fuel (named.map (·.2.1)) s.graph :=
  graph_foldl (gcTagStep c B fuel) _ fuel (·.2.1) (fun _ _ => rfl) named s

theorem gcTagFold_blobs (c : OciCfg) (B : List Node) (fuel : Nat) (named : List (RefKey × Node × Nat))
    (s : OciSt) : (named.foldl (gcTagStep c B fuel) s).blobs = s.blobs :=
  List.foldlRecOn named _ (motive := fun s' : OciSt => s'.blobs = s.blobs) rfl fun _ ih _ _ => ih

theorem gcIndex_induct (c : OciCfg) (fixed repeatPass : Bool) (st s : OciSt) (fuel : Nat) (P : OciSt → Prop)
    (h1 : P (st.gcNamed.foldl (gcTagStep c st.blobs fuel) st.gcFresh))
    (hstep : ∀ s e, e ∈ st.refs → (∃ t, SubjChain c st.blobs e.2.1 t ∧ s.graph.exists_ t = true) → P s →
      P { s.resolverTag e.2.1 e.2.2 (.dig e.2.1) with
          graph := GMem.indexAll (succOf c st.blobs) fuel s.graph e.2.1 })
    (hok : gcIndex c fixed repeatPass st fuel = .ok s) : P s := by
  let Q (acc : Except OErr OciSt) : Prop := ∀ s, acc = .ok s → P s
  have step : ∀ acc e, e ∈ st.refs → Q acc → Q (gcRefStep c fixed st.blobs fuel acc e) := by
    intro acc e he h s' hs'
    unfold gcRefStep at hs'
    cases acc with
    | error err => cases hs'
    | ok s =>
      simp only at hs'
      split at hs'
      · cases hs'; exact h _ rfl
      · split at hs'
        · cases hs'
        · cases hs'; exact h _ rfl
        · next hw =>
          cases hs'
          refine hstep s e he ?_ (h _ rfl)
          cases fixed
          · exact gcWalkBuggy_true c st.blobs s.graph e.2.1 hw
          · exact gcWalk_true c st.blobs s.graph fuel e.2.1 hw
  -- a pass goes over entries of `st.refs`
  have pass : ∀ (p : RefKey × Node × Nat → Bool) acc, Q acc →
      Q (gcPass c fixed st.blobs fuel (st.refs.filter p) acc) :=
    fun p acc h => List.foldlRecOn _ _ (motive := Q) h fun acc' ih e he =>
      step acc' e (List.mem_filter.mp he).1 ih
  have start : Q (.ok (st.gcNamed.foldl (gcTagStep c st.blobs fuel) st.gcFresh)) := fun _ h => by cases h; exact h1
  refine (?_ : Q (gcIndex c fixed repeatPass st fuel)) s hok
  unfold gcIndex
  split
  · exact List.foldlRecOn _ _ (motive := Q) start fun acc ih _ _ => pass _ acc ih
  · exact pass _ _ start

theorem gcIndex_keeps (c : OciCfg) (fixed repeatPass : Bool) (st s : OciSt) (rk : Node → Nat)
    (hrk : GMem.RankOK (succOf c st.blobs) rk) (fuel : Nat)
    (hf : ∀ e ∈ st.gcNamed, rk e.2.1 < fuel)
    (hok : gcIndex c fixed repeatPass st fuel = .ok s) :
    s.blobs = st.blobs ∧
    ∀ e ∈ st.gcNamed, ∀ m ss, GMem.ReachOf (succOf c st.blobs) e.2.1 m → succOf c st.blobs m = some ss →
      s.graph.nodes m = true := by
  refine gcIndex_induct c fixed repeatPass st s fuel
    (fun s => s.blobs = st.blobs ∧ ∀ e ∈ st.gcNamed, ∀ m ss, GMem.ReachOf (succOf c st.blobs) e.2.1 m →
      succOf c st.blobs m = some ss → s.graph.nodes m = true) ⟨gcTagFold_blobs .., ?_⟩ ?_ hok
  · intro e he m ss hreach hs
    rw [gcTagFold_graph]
    exact (GMem.indexRoots_complete _ rk hrk fuel _ _ (List.forall_mem_map.mpr hf)
      (List.mem_map_of_mem he) hreach hs).1
  · exact fun s e _ _ h => ⟨h.1, fun e' he' m ss hr hs =>
      (GMem.indexAll_keeps _ s.graph e.2.1 fuel).1 m (h.2 e' he' m ss hr hs)⟩

theorem gc_of_error {c : OciCfg} {fixed repeatPass : Bool} {st : OciSt} {fuel : Nat} {e : OErr}
    (hg : gcIndex c fixed repeatPass st fuel = .error e) (saveAfter : Bool) :
    st.gc c fixed repeatPass saveAfter fuel = (st, .error e) := by
  rw [gc, hg]

theorem gc_of_ok {c : OciCfg} {fixed repeatPass : Bool} {st s : OciSt} {fuel : Nat}
    (hg : gcIndex c fixed repeatPass st fuel = .ok s) (saveAfter : Bool) :
    (st.gc c fixed repeatPass saveAfter fuel).2 = .ok () ∧
    (st.gc c fixed repeatPass saveAfter fuel).1.blobs = s.blobs.filter (fun b => s.graph.nodes b) ∧
    ∀ k, (st.gc c fixed repeatPass saveAfter fuel).1.lookupRef k = s.lookupRef k := by
  rw [gc, hg]
  cases saveAfter
  · exact ⟨rfl, rfl, fun _ => rfl⟩
  · exact ⟨rfl, blobs_autosave _, fun _ => lookupRef_autosave _ _⟩

theorem gcIndex_of_gc_ok {c : OciCfg} {fixed repeatPass saveAfter : Bool} {st : OciSt} {fuel : Nat}
    (hok : (st.gc c fixed repeatPass saveAfter fuel).2 = .ok ()) :
    ∃ s, gcIndex c fixed repeatPass st fuel = .ok s := by
  cases hg : gcIndex c fixed repeatPass st fuel with
  | error e => rw [gc_of_error hg] at hok; cases hok
  | ok s => exact ⟨s, rfl⟩

/-- What `GC` considers live: reachable from a tagged manifest, or from an index entry whose
    subject chain ends in a live node. -/
inductive GcLive (c : OciCfg) (st : OciSt) : Node → Prop
  | tagged {e : RefKey × Node × Nat} {x : Node} : e ∈ st.gcNamed →
      GMem.ReachOf (succOf c st.blobs) e.2.1 x → GcLive c st x
  | referrer {e : RefKey × Node × Nat} {s x : Node} : e ∈ st.refs →
      SubjChain c st.blobs e.2.1 s → GcLive c st s →
      GMem.ReachOf (succOf c st.blobs) e.2.1 x → GcLive c st x

theorem gcIndex_sound (c : OciCfg) (fixed repeatPass : Bool) (st s : OciSt) (fuel : Nat)
    (hok : gcIndex c fixed repeatPass st fuel = .ok s) :
    ∀ x, s.graph.nodes x = true → GcLive c st x := by
  refine gcIndex_induct c fixed repeatPass st s fuel (fun s => ∀ x, s.graph.nodes x = true → GcLive c st x)
    ?_ ?_ hok
  · intro x hx
    rw [gcTagFold_graph] at hx
    rcases GMem.indexRoots_nodes_sound _ fuel _ _ x hx with h | ⟨r, hr, h⟩
    · cases h
    · obtain ⟨e, he, rfl⟩ := List.mem_map.mp hr
      exact .tagged he h
  · intro s e he ⟨t, hchain, ht⟩ h x hx
    exact (GMem.indexAll_nodes_sound _ fuel s.graph e.2.1 x hx).elim (h x) (.referrer he hchain (h t ht))

theorem gcTagStep_lookup_tag (c : OciCfg) (B : List Node) (fuel : Nat) (s : OciSt) (e : RefKey × Node × Nat) (t : Nat) :
    (gcTagStep c B fuel s e).lookupRef (.tag t) = if e.1 = .tag t then some e.2 else s.lookupRef (.tag t) := by
  show ((s.resolverTag e.2.1 e.2.2 (.dig e.2.1)).resolverTag e.2.1 e.2.2 e.1).lookupRef (.tag t) = _
  rw [lookupRef_resolverTag, lookupRef_resolverTag, if_neg (nofun : RefKey.tag t ≠ .dig e.2.1)]
  simp only [eq_comm]

theorem gcIndex_names (c : OciCfg) (fixed repeatPass : Bool) (st s : OciSt) (fuel : Nat) (hu : RefUniq st)
    (hok : gcIndex c fixed repeatPass st fuel = .ok s) (t : Nat) :
    s.lookupRef (.tag t) = st.lookupRef (.tag t) := by
  refine gcIndex_induct c fixed repeatPass st s fuel (fun s => s.lookupRef (.tag t) = st.lookupRef (.tag t))
    ?_ ?_ hok
  · -- after the tagged entries: the named entries are the part of the references that holds
    -- everything filed under a name
    refine lookup_foldl _ (.tag t) (·.1 = .tag t) (·.2) (fun s e => gcTagStep_lookup_tag c st.blobs fuel s e t)
      (· = st.lookupRef (.tag t)) _ _ (fun e he hk => ?_) fun hno => ?_
    · have : (RefKey.tag t, e.2) ∈ st.refs := hk ▸ (List.mem_filter.mp he).1
      exact (lookup_of_mem st hu _ _ this).symm
    · cases h : st.lookupRef (.tag t) with
      | none => rfl
      | some v => exact absurd rfl (hno _ (List.mem_filter.mpr ⟨mem_of_lookup st _ v h, rfl⟩))
  · intro s e _ _ h
    exact (lookupRef_resolverTag ..).trans ((if_neg nofun).trans h)

theorem gc_names (c : OciCfg) (fixed repeatPass saveAfter : Bool) (st : OciSt) (fuel : Nat) (hu : RefUniq st) (t : Nat) :
    (st.gc c fixed repeatPass saveAfter fuel).1.lookupRef (.tag t) = st.lookupRef (.tag t) := by
  cases hg : gcIndex c fixed repeatPass st fuel with
  | error e => rw [gc_of_error hg]
  | ok s => rw [(gc_of_ok hg saveAfter).2.2]; exact gcIndex_names c fixed repeatPass st s fuel hu hg t

end OciSt
end Oras
