/- Invariant of the `Once` single-flight (C16). -/
import OrasModel.Model.Once
import OrasModel.Proofs.Basic
namespace Oras

/-- Exactly one of: the token is in the channel, somebody is running, the channel is closed;
    at most one caller runs; once closed the outcome is stored and every reported outcome is
    that one; `first` is reported by at most one caller. -/
structure OnceInv {R : Type} (s : OnceSt R) : Prop where
  oneRunner : ∀ i j, s.pc i = .running → s.pc j = .running → i = j
  tokenExcl : s.token = true → s.closed = false ∧ ∀ i, s.pc i ≠ .running
  closedExcl : s.closed = true → s.token = false ∧ (∀ i, s.pc i ≠ .running) ∧ s.result.isSome
  runnerExcl : ∀ i, s.pc i = .running → s.token = false ∧ s.closed = false
  noLoss : s.token = true ∨ s.closed = true ∨ ∃ i, s.pc i = .running
  shared : ∀ i f r, s.pc i = .done f (some r) → s.closed = true ∧ s.result = some r
  oneFirst : ∀ i j r r', s.pc i = .done true r → s.pc j = .done true r' → i = j
  firstClosed : ∀ i r, s.pc i = .done true r → s.closed = true

theorem onceInv_init (R : Type) : OnceInv (OnceSt.init R) :=
  { oneRunner := nofun, tokenExcl := fun _ => ⟨rfl, nofun⟩, closedExcl := nofun, runnerExcl := nofun, noLoss := .inl rfl
    shared := nofun, oneFirst := nofun, firstClosed := nofun }

/-- The steps `observe` and `giveUp`: a caller returns without having run the function. -/
theorem OnceInv.leave {R : Type} {s : OnceSt R} (h : OnceInv s) (i : Nat) (hi : s.pc i = .idle) (r : Option R)
    (hr : ∀ x, r = some x → s.closed = true ∧ s.result = some x) :
    OnceInv { s with pc := fun j => if j = i then .done false r else s.pc j } where
  oneRunner a b ha hb := h.oneRunner a b (of_upd ha) (of_upd hb)
  tokenExcl ht := ⟨(h.tokenExcl ht).1, fun a ha => (h.tokenExcl ht).2 a (of_upd ha)⟩
  closedExcl hc := ⟨(h.closedExcl hc).1, fun a ha => (h.closedExcl hc).2.1 a (of_upd ha), (h.closedExcl hc).2.2⟩
  runnerExcl a ha := h.runnerExcl a (of_upd ha)
  noLoss := h.noLoss.imp id (.imp id fun ⟨j, hj⟩ =>
    ⟨j, (if_neg fun e => by rw [e, hi] at hj; cases hj).trans hj⟩)
  shared a f x ha := by
    rcases upd_cases ha with ⟨_, e⟩ | ⟨_, ha⟩
    · exact hr x (OncePC.done.inj e).2
    · exact h.shared a f x ha
  oneFirst a b r r' ha hb := h.oneFirst a b r r' (of_upd ha) (of_upd hb)
  firstClosed a r ha := h.firstClosed a r (of_upd ha)

theorem onceInv_step {R : Type} (s t : OnceSt R) (h : OnceInv s) (st : OnceStep s t) : OnceInv t := by
  cases st with
  | take i hi ht hc =>
    -- the token was there, so nobody was running: `i` is the only runner now
    have only : ∀ a, (if a = i then OncePC.running else s.pc a) = .running → a = i := fun a ha =>
      (upd_cases ha).elim (·.1) fun ⟨_, ha⟩ => absurd ha ((h.tokenExcl ht).2 a)
    exact {
      oneRunner := fun a b ha hb => (only a ha).trans (only b hb).symm
      tokenExcl := nofun
      closedExcl := fun h' => absurd (hc.symm.trans h') nofun
      runnerExcl := fun _ _ => ⟨rfl, hc⟩
      noLoss := .inr (.inr ⟨i, if_pos rfl⟩)
      shared := fun a f r ha => h.shared a f r (of_upd ha)
      oneFirst := fun a b r r' ha hb => h.oneFirst a b r r' (of_upd ha) (of_upd hb)
      firstClosed := fun a r ha => h.firstClosed a r (of_upd ha) }
  | finish i r hi =>
    have hex := h.runnerExcl i hi
    -- the only runner has left
    have hnr : ∀ a, (if a = i then OncePC.done true (some r) else s.pc a) ≠ .running := fun a ha =>
      (upd_cases ha).elim (nomatch ·.2) fun ⟨ne, ha⟩ => ne (h.oneRunner a i ha hi)
    -- nobody had an outcome, or was first, before the channel was closed
    have hnc : s.closed ≠ true := fun e => absurd (hex.2.symm.trans e) nofun
    have only : ∀ a r', (if a = i then OncePC.done true (some r) else s.pc a) = .done true r' → a = i :=
      fun a r' ha => (upd_cases ha).elim (·.1) fun ⟨_, ha⟩ => absurd (h.firstClosed a r' ha) hnc
    exact {
      oneRunner := fun a _ ha => absurd ha (hnr a)
      tokenExcl := fun h' => absurd (hex.1.symm.trans h') nofun
      closedExcl := fun _ => ⟨hex.1, hnr, rfl⟩
      runnerExcl := fun a ha => absurd ha (hnr a)
      noLoss := .inr (.inl rfl)
      shared := fun a f r' ha => by
        rcases upd_cases ha with ⟨_, e⟩ | ⟨_, ha⟩
        · cases e; exact ⟨rfl, rfl⟩
        · exact absurd (h.shared a f r' ha).1 hnc
      oneFirst := fun a b r1 r2 ha hb => (only a r1 ha).trans (only b r2 hb).symm
      firstClosed := fun _ _ _ => rfl }
  | handOver i hi =>
    have hex := h.runnerExcl i hi
    have hnr : ∀ a, (if a = i then OncePC.done false none else s.pc a) ≠ .running := fun a ha =>
      (upd_cases ha).elim (nomatch ·.2) fun ⟨ne, ha⟩ => ne (h.oneRunner a i ha hi)
    exact {
      oneRunner := fun a _ ha => absurd ha (hnr a)
      tokenExcl := fun _ => ⟨hex.2, hnr⟩
      closedExcl := fun h' => absurd (hex.2.symm.trans h') nofun
      runnerExcl := fun a ha => absurd ha (hnr a)
      noLoss := .inl rfl
      shared := fun a f r ha => h.shared a f r (of_upd ha)
      oneFirst := fun a b r r' ha hb => h.oneFirst a b r r' (of_upd ha) (of_upd hb)
      firstClosed := fun a r ha => h.firstClosed a r (of_upd ha) }
  | observe i hi hc => exact h.leave i hi s.result fun _ e => ⟨hc, e⟩
  | giveUp i hi => exact h.leave i hi none nofun

theorem onceInv_reach {R : Type} (s : OnceSt R) (h : OnceReach s) : OnceInv s := by
  induction h with
  | init => exact onceInv_init R
  | step _ st ih => exact onceInv_step _ _ ih st

end Oras
