/- What the functions of `Model/Ref.lean` do: `splitFirst` cuts at the first occurrence; the
   recognisers keep excluded characters out; `splitRef` finds one of four shapes of text after
   the repository (`SuffixShape`); `parseRef` is `splitRef` followed by the validators. -/
import OrasModel.Model.Ref
import OrasModel.Proofs.Re
namespace Oras

theorem splitFirst_append {c : Char} (a b : Str) (h : c ∉ a) :
    splitFirst c (a ++ c :: b) = some (a, b) := by
  induction a with
  | nil => simp [splitFirst]
  | cons x xs ih =>
    rw [List.mem_cons, not_or] at h
    simp [splitFirst, Ne.symm h.1, ih h.2]

theorem splitFirst_none {c : Char} {s : Str} : splitFirst c s = none ↔ c ∉ s := by
  constructor
  · -- a character that occurs has a first occurrence
    intro h hc
    obtain ⟨a, b, rfl, ha⟩ := List.eq_append_cons_of_mem hc
    rw [splitFirst_append a b ha] at h
    cases h
  · intro h
    induction s with
    | nil => rfl
    | cons x xs ih =>
      rw [List.mem_cons, not_or] at h
      simp [splitFirst, Ne.symm h.1, ih h.2]

theorem splitFirst_some {c : Char} {s a b : Str} (h : splitFirst c s = some (a, b)) :
    s = a ++ c :: b ∧ c ∉ a := by
  by_cases hc : c ∈ s
  · obtain ⟨a', b', rfl, ha⟩ := List.eq_append_cons_of_mem hc
    rw [splitFirst_append a' b' ha] at h
    cases h
    exact ⟨rfl, ha⟩
  · rw [splitFirst_none.mpr hc] at h; cases h

theorem lookup_mem {α β : Type} [BEq α] [LawfulBEq α] {l : List (α × β)} {k : α} {v : β}
    (h : l.lookup k = some v) : (k, v) ∈ l := by
  obtain ⟨l₁, l₂, rfl, _⟩ := List.lookup_eq_some_iff.mp h
  exact List.mem_append_right _ List.mem_cons_self

/-- A character is excluded by a configuration's recognisers (decidable on the
    generated trees). -/
def exclRepo (cfg : RefCfg) (c : Char) : Bool := !Re.inRanges cfg.repoRe.alphabet c
def exclTag (cfg : RefCfg) (c : Char) : Bool := !Re.inRanges cfg.tagRe.alphabet c
def exclDigest (cfg : RefCfg) (c : Char) : Bool :=
  c != ':' && cfg.algs.all (fun p => !p.1.contains c && !Re.inRanges p.2.alphabet c)

theorem repoOk_excl {cfg : RefCfg} {c : Char} {s : Str} (he : exclRepo cfg c = true)
    (h : repoOk cfg s = true) : c ∉ s :=
  Re.not_mem_of_accepts h (by simpa [exclRepo] using he)

theorem tagOk_excl {cfg : RefCfg} {c : Char} {s : Str} (he : exclTag cfg c = true)
    (h : tagOk cfg s = true) : c ∉ s :=
  Re.not_mem_of_accepts h (by simpa [exclTag] using he)

theorem digestOk_inv {cfg : RefCfg} {s : Str} (h : digestOk cfg s = true) :
    ∃ alg enc re, s = alg ++ ':' :: enc ∧ (alg, re) ∈ cfg.algs ∧ re.accepts enc = true := by
  unfold digestOk at h
  split at h
  · cases h
  · next alg enc hs =>
    split at h
    · cases h
    · split at h
      · cases h
      · exact ⟨alg, enc, _, (splitFirst_some hs).1, lookup_mem ‹_›, h⟩

theorem digestOk_excl {cfg : RefCfg} {c : Char} {s : Str} (he : exclDigest cfg c = true)
    (h : digestOk cfg s = true) : c ∉ s := by
  obtain ⟨alg, enc, re, rfl, hm, ha⟩ := digestOk_inv h
  simp only [exclDigest, Bool.and_eq_true, List.all_eq_true, bne_iff_ne, Bool.not_eq_true',
    List.contains_eq_mem, decide_eq_false_iff_not] at he
  obtain ⟨hk, hr⟩ := he.2 _ hm
  simp only [List.mem_append, List.mem_cons, not_or]
  exact ⟨hk, he.1, Re.not_mem_of_accepts ha hr⟩

theorem digestOk_has_colon {cfg : RefCfg} {s : Str} (h : digestOk cfg s = true) : ':' ∈ s := by
  obtain ⟨_, _, _, rfl, _⟩ := digestOk_inv h
  simp

theorem digestOk_nonempty {cfg : RefCfg} {s : Str} (h : digestOk cfg s = true) : s ≠ [] :=
  List.ne_nil_of_mem (digestOk_has_colon h)

/-- What may follow the repository, before any validation: the suffix text, the reference
    text `splitRef` takes from it, and whether that is taken for a tag. -/
inductive SuffixShape : Str → Str → Bool → Prop
  | none : SuffixShape [] [] false
  | colon (t : Str) : '@' ∉ t → SuffixShape (':' :: t) t true
  | at (d : Str) : SuffixShape ('@' :: d) d false
  | colonAt (t d : Str) : '@' ∉ t → SuffixShape (':' :: t ++ '@' :: d) d false

theorem splitRef_some {s reg repo ref : Str} {isTag : Bool}
    (h : splitRef s = some (reg, repo, ref, isTag)) :
    ∃ suf, s = reg ++ '/' :: (repo ++ suf) ∧ '/' ∉ reg ∧ SuffixShape suf ref isTag := by
  unfold splitRef at h
  split at h
  · cases h
  · next reg' path h1 =>
    obtain ⟨rfl, n1⟩ := splitFirst_some h1
    split at h
    · next before dg h2 =>
      obtain ⟨rfl, n2⟩ := splitFirst_some h2
      split at h
      · next repo' t h3 =>
        cases h
        obtain ⟨rfl, _⟩ := splitFirst_some h3
        exact ⟨_, by simp, n1, .colonAt t ref fun ht => n2 (by simp [ht])⟩
      · cases h
        exact ⟨_, rfl, n1, .at ref⟩
    · next h2 =>
      split at h
      · next repo' t h3 =>
        cases h
        obtain ⟨rfl, _⟩ := splitFirst_some h3
        exact ⟨_, rfl, n1, .colon ref fun ht => splitFirst_none.mp h2 (by simp [ht])⟩
      · cases h
        exact ⟨[], by simp, n1, .none⟩

theorem splitRef_shape {reg repo suf ref : Str} {isTag : Bool} (hreg : '/' ∉ reg)
    (rc : ':' ∉ repo) (ra : '@' ∉ repo) (h : SuffixShape suf ref isTag) :
    splitRef (reg ++ '/' :: (repo ++ suf)) = some (reg, repo, ref, isTag) := by
  unfold splitRef
  rw [splitFirst_append reg _ hreg]
  cases h with
  | none => simp [splitFirst_none.mpr ra, splitFirst_none.mpr rc]
  | colon _ nt =>
    have : '@' ∉ repo ++ ':' :: ref := by simp [ra, nt]
    simp [splitFirst_none.mpr this, splitFirst_append repo ref rc]
  | «at» => simp [splitFirst_append repo ref ra, splitFirst_none.mpr rc]
  | colonAt t _ nt =>
    have : '@' ∉ repo ++ ':' :: t := by simp [ra, nt]
    have := splitFirst_append (repo ++ ':' :: t) ref this
    simp only [List.append_assoc, List.cons_append] at this
    simp [this, splitFirst_append repo t rc]

theorem parseRef_eq_some {cfg : RefCfg} {s : Str} {r : Ref} :
    parseRef cfg s = some r ↔
      ∃ isTag, splitRef s = some (r.registry, r.repository, r.reference, isTag) ∧
        cfg.validReg r.registry = true ∧ repoOk cfg r.repository = true ∧
        (r.reference = [] ∨
          (if isTag then tagOk cfg r.reference else digestOk cfg r.reference) = true) := by
  constructor
  · -- the branches of `parseRef`: 1 no split, 2 bad registry, 3 bad repository, 4 empty reference,
    -- 5 tag accepted, 6 tag refused, 7 digest accepted, 8 digest refused; 4, 5 and 7 give a result
    fun_cases parseRef cfg s <;> intro h
    case case4 reg repo ref isTag hs hv hr he =>
      cases h
      rw [List.isEmpty_iff] at he; subst he
      exact ⟨isTag, hs, by simpa using hv, by simpa using hr, .inl rfl⟩
    case case5 reg repo ref hv hr _ ht hs =>
      cases h
      exact ⟨true, hs, by simpa using hv, by simpa using hr, .inr ht⟩
    case case7 reg repo ref isTag hs hv hr _ hn hd =>
      cases h
      rw [Bool.not_eq_true] at hn; subst hn
      exact ⟨false, hs, by simpa using hv, by simpa using hr, .inr hd⟩
    all_goals cases h
  · rintro ⟨isTag, hs, hv, hr, hok⟩
    obtain ⟨reg, repo, ref⟩ := r
    simp only at hs hv hr hok
    unfold parseRef
    rw [hs]
    by_cases he : ref = []
    · simp [hv, hr, he]
    · cases isTag <;> simp [he] at hok <;> simp [hv, hr, he, hok]

theorem parseRef_valid {cfg : RefCfg} {s : Str} {r : Ref} (h : parseRef cfg s = some r) :
    '/' ∉ r.registry ∧ cfg.validReg r.registry = true ∧ repoOk cfg r.repository = true ∧
      (r.reference = [] ∨ tagOk cfg r.reference = true ∨ digestOk cfg r.reference = true) := by
  obtain ⟨isTag, hs, hv, hr, hok⟩ := parseRef_eq_some.mp h
  obtain ⟨_, -, hreg, -⟩ := splitRef_some hs
  refine ⟨hreg, hv, hr, hok.imp_right fun h => ?_⟩
  cases isTag
  · exact .inr h
  · exact .inl h

theorem parseRef_of_no_slash (cfg : RefCfg) {s : Str} (h : '/' ∉ s) : parseRef cfg s = none := by
  unfold parseRef splitRef
  rw [splitFirst_none.mpr h]

theorem repoParseRef_of_parse {cfg : RefCfg} {s : Str} {r : Ref} (base : Ref)
    (h : parseRef cfg s = some r) :
    repoParseRef cfg base s =
      if r.registry = base.registry ∧ r.repository = base.repository ∧ r.reference ≠ [] then some r
      else none := by
  simp only [repoParseRef, h]
  by_cases hf : r.registry ≠ base.registry ∨ r.repository ≠ base.repository
  · rw [if_pos hf, if_neg fun h => hf.elim (· h.1) (· h.2.1)]
  · rw [if_neg hf]
    rw [not_or, Decidable.not_not, Decidable.not_not] at hf
    by_cases he : r.reference = [] <;> simp [hf, he]

theorem repoParseRef_bare {cfg : RefCfg} (base : Ref) {x : Str} (hs : '/' ∉ x) (ha : '@' ∉ x)
    (hne : x ≠ []) (hx : validateReference cfg x = true) :
    repoParseRef cfg base x = some ⟨base.registry, base.repository, x⟩ := by
  unfold repoParseRef
  rw [parseRef_of_no_slash cfg hs, splitFirst_none.mpr ha]
  simp [hx, hne]

theorem repoParseRef_at {cfg : RefCfg} (base : Ref) {t d : Str} (hts : '/' ∉ t) (hds : '/' ∉ d)
    (ha : '@' ∉ t) (hd : digestOk cfg d = true) :
    repoParseRef cfg base (t ++ '@' :: d) = some ⟨base.registry, base.repository, d⟩ := by
  have hs : '/' ∉ t ++ '@' :: d := by simp [hts, hds]
  unfold repoParseRef
  rw [parseRef_of_no_slash cfg hs, splitFirst_append t d ha]
  simp [hd, digestOk_nonempty hd]

end Oras
