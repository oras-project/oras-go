/-
  Invariants of `syncutil.Merge` (C14).  There are two, and neither needs the other: who may run
  (`MergeSched`), and what the two histories record (`MergeHist`).
-/
import OrasModel.Model.Merge
import OrasModel.Proofs.Basic
namespace Oras

/-- A history keyed by batch number, when batch `n` is the current one: only finished
    batches have an entry, and each at most one. -/
structure Hist {β : Type} (l : List (Nat × β)) (n : Nat) : Prop where
  old : ∀ b y, (b, y) ∈ l → b < n
  unique : ∀ b y y', (b, y) ∈ l → (b, y') ∈ l → y = y'

theorem Hist.cons {β : Type} {l : List (Nat × β)} {n : Nat} (h : Hist l n) (x : β) : Hist ((n, x) :: l) (n + 1) := by
  have hn : ∀ y, (n, y) ∉ l := fun y hy => Nat.lt_irrefl n (h.old n y hy)
  constructor
  · intro b y hb
    rcases List.mem_cons.mp hb with e | hb
    · cases e; exact Nat.lt_succ_self _
    · exact Nat.lt_succ_of_lt (h.old b y hb)
  · intro b y y' h1 h2
    rcases List.mem_cons.mp h1 with e1 | h1 <;> rcases List.mem_cons.mp h2 with e2 | h2
    · cases e1; cases e2; rfl
    · cases e1; exact absurd h2 (hn y')
    · cases e2; exact absurd h1 (hn y)
    · exact h.unique b y y' h1 h2

theorem complete_pc_cases {s : MergeSt} {ok : Bool} {j : Nat} {w : MPC} (h : (s.complete ok).pc j = w) :
    j ∈ s.items ∧ .done s.cur ok = w ∨ j ∉ s.items ∧ s.pc j = w := by
  by_cases e : j ∈ s.items
  · exact .inl ⟨e, (if_pos e).symm.trans h⟩
  · exact .inr ⟨e, (if_neg e).symm.trans h⟩

theorem active_upd {pc : Nat → MPC} {i : Nat} {u : MPC} (hi : pc i = u) (v : MPC) (hv : v.active = u.active) (j : Nat) :
    (pc j).active = (if j = i then v else pc j).active := by
  by_cases e : j = i
  · rw [if_pos e, e, hi, hv]
  · rw [if_neg e]

/-- Who may run: a caller between `prepare` and `complete` is a member of the current batch and
    has taken its token, there is at most one such caller, and a waiting caller is a member of
    the batch it waits for. -/
structure MergeSched (s : MergeSt) : Prop where
  activeCur : ∀ j, (s.pc j).active = true → s.token = false ∧ j ∈ s.items
  oneActive : ∀ j k, (s.pc j).active = true → (s.pc k).active = true → j = k
  waitingWhere : ∀ j b, s.pc j = .waiting b → (b = s.cur ∧ j ∈ s.items) ∨ (b = s.cur + 1 ∧ j ∈ s.pending)

/-- The active caller is a member of the batch, and `complete` returns to every member. -/
theorem MergeSched.complete_not_active {s : MergeSt} (h : MergeSched s) (ok : Bool) (j : Nat) :
    ((s.complete ok).pc j).active = false := by
  rcases complete_pc_cases (s := s) (ok := ok) (j := j) rfl with ⟨_, e⟩ | ⟨hj, e⟩ <;> rw [← e]
  · rfl
  · exact Bool.eq_false_iff.mpr fun ha => hj (h.activeCur j ha).2

theorem MergeSched.complete {s : MergeSt} (h : MergeSched s) (ok : Bool) (res : List (Nat × List Nat)) :
    MergeSched { s.complete ok with resolved := res } where
  activeCur j hj := absurd hj (by rw [h.complete_not_active ok j]; nofun)
  oneActive j _ hj := absurd hj (by rw [h.complete_not_active ok j]; nofun)
  waitingWhere j b hj := by
    -- who still waits was not in the batch that is finished, so waits for the next one
    rcases complete_pc_cases hj with ⟨_, e⟩ | ⟨hn, hj⟩
    · cases e
    · exact (h.waitingWhere j b hj).elim (absurd ·.2 hn) .inl

theorem MergeSched.step {s t : MergeSt} (h : MergeSched s) (st : MergeStep s t) : MergeSched t := by
  cases st with
  | assignOpen i hi hc =>
    have act := active_upd hi (.waiting s.cur) rfl
    exact {
      activeCur := fun j hj => by
        -- with somebody active the batch is not empty, so the token stays where it is
        obtain ⟨h1, h2⟩ := h.activeCur j ((act j).trans hj)
        refine ⟨?_, List.mem_append_left _ h2⟩
        rw [h1, Bool.false_or, List.isEmpty_eq_false_iff]
        exact List.ne_nil_of_mem h2
      oneActive := fun j k hj hk => h.oneActive j k ((act j).trans hj) ((act k).trans hk)
      waitingWhere := fun j b hj => by
        rcases upd_cases hj with ⟨rfl, e⟩ | ⟨_, hj⟩
        · cases e; exact .inl ⟨rfl, List.mem_append_right _ List.mem_cons_self⟩
        · exact (h.waitingWhere j b hj).imp (.imp_right (List.mem_append_left _)) id }
  | assignPending i hi hc =>
    have act := active_upd hi (.waiting (s.cur + 1)) rfl
    exact {
      activeCur := fun j hj => h.activeCur j ((act j).trans hj)
      oneActive := fun j k hj hk => h.oneActive j k ((act j).trans hj) ((act k).trans hk)
      waitingWhere := fun j b hj => by
        rcases upd_cases hj with ⟨rfl, e⟩ | ⟨_, hj⟩
        · cases e; exact .inr ⟨rfl, List.mem_append_right _ List.mem_cons_self⟩
        · exact (h.waitingWhere j b hj).imp id (.imp_right (List.mem_append_left _)) }
  | takeMain i hi ht =>
    -- the token was there, so nobody was active; `i` is the only one now
    have idle : ∀ j, (s.pc j).active ≠ true := fun j hj => absurd ((h.activeCur j hj).1.symm.trans ht) nofun
    have only : ∀ j, (if j = i then MPC.preparing s.cur else s.pc j).active = true → j = i := fun j hj =>
      Decidable.byContradiction fun e => idle j (by rw [if_neg e] at hj; exact hj)
    have hitems : i ∈ s.items := (h.waitingWhere i s.cur hi).elim (·.2) fun e => absurd e.1 (Nat.ne_of_lt (Nat.lt_succ_self _))
    exact {
      activeCur := fun j hj => ⟨rfl, only j hj ▸ hitems⟩
      oneActive := fun j k hj hk => (only j hj).trans (only k hk).symm
      waitingWhere := fun j b hj => h.waitingWhere j b (of_upd hj) }
  | prepareOk i hi =>
    have act := active_upd hi (.resolving s.cur) rfl
    exact {
      activeCur := fun j hj => h.activeCur j ((act j).trans hj)
      oneActive := fun j k hj hk => h.oneActive j k ((act j).trans hj) ((act k).trans hk)
      waitingWhere := fun j b hj => h.waitingWhere j b (of_upd hj) }
  | prepareFail i hi => exact h.complete false s.resolved
  | resolveDone i ok hi => exact h.complete ok _

theorem MergeReach.sched {s : MergeSt} (h : MergeReach s) : MergeSched s := by
  induction h with
  | init => exact ⟨nofun, nofun, nofun⟩
  | step _ st ih => exact ih.step st

/-- What the histories record: the result a caller got and the items that were resolved with
    its own, batch by batch. -/
structure MergeHist (s : MergeSt) : Prop where
  doneOutcome : ∀ j b ok, s.pc j = .done b ok → (b, ok) ∈ s.outcome
  doneInResolved : ∀ j b ok its, s.pc j = .done b ok → (b, its) ∈ s.resolved → j ∈ its
  outcome : Hist s.outcome s.cur
  resolved : Hist s.resolved s.cur

theorem MergeHist.frame {s t : MergeSt} (h : MergeHist s) (hpc : ∀ j b ok, t.pc j = .done b ok → s.pc j = .done b ok)
    (hc : t.cur = s.cur) (ho : t.outcome = s.outcome) (hr : t.resolved = s.resolved) : MergeHist t where
  doneOutcome j b ok hj := ho ▸ h.doneOutcome j b ok (hpc j b ok hj)
  doneInResolved j b ok its hj := hr ▸ h.doneInResolved j b ok its (hpc j b ok hj)
  outcome := ho ▸ hc ▸ h.outcome
  resolved := hr ▸ hc ▸ h.resolved

theorem MergeHist.complete {s : MergeSt} (h : MergeHist s) (ok : Bool) :
    MergeHist { s.complete ok with resolved := (s.cur, s.items) :: s.resolved } := by
  -- a caller's `done` is either new (a member of the batch) or old (of an earlier batch)
  have doneCases : ∀ {j b o}, (s.complete ok).pc j = .done b o →
      j ∈ s.items ∧ b = s.cur ∧ o = ok ∨ s.pc j = .done b o ∧ b < s.cur := fun {j b o} hj =>
    (complete_pc_cases hj).imp (fun ⟨hm, e⟩ => by cases e; exact ⟨hm, rfl, rfl⟩)
      fun ⟨_, hj⟩ => ⟨hj, h.outcome.old b o (h.doneOutcome j b o hj)⟩
  exact {
    doneOutcome := fun j b o hj => by
      rcases doneCases hj with ⟨_, rfl, rfl⟩ | ⟨hj, _⟩
      · exact List.mem_cons_self
      · exact List.mem_cons_of_mem _ (h.doneOutcome j b o hj)
    doneInResolved := fun j b o its hj hb => by
      -- and so is the entry; a new `done` and an old entry, or the other way round, differ in `b`
      rcases doneCases hj with ⟨hm, e, _⟩ | ⟨hj, hlt⟩ <;> rcases List.mem_cons.mp hb with e' | hb
      · cases e'; exact hm
      · exact absurd (e ▸ h.resolved.old b its hb) (Nat.lt_irrefl _)
      · cases e'; exact absurd hlt (Nat.lt_irrefl _)
      · exact h.doneInResolved j b o its hj hb
    outcome := h.outcome.cons ok
    resolved := h.resolved.cons _ }

/-- For `prepareFail`, which completes a batch without entering it in `resolved`. -/
theorem MergeHist.forget {s : MergeSt} (h : MergeHist s) {res : List (Nat × List Nat)} (hsub : ∀ x ∈ res, x ∈ s.resolved) :
    MergeHist { s with resolved := res } where
  doneOutcome := h.doneOutcome
  doneInResolved j b ok its hj hb := h.doneInResolved j b ok its hj (hsub _ hb)
  outcome := h.outcome
  resolved := ⟨fun b y hb => h.resolved.old b y (hsub _ hb), fun b y y' hb hb' => h.resolved.unique b y y' (hsub _ hb) (hsub _ hb')⟩

theorem MergeHist.step {s t : MergeSt} (h : MergeHist s) (st : MergeStep s t) : MergeHist t := by
  cases st with
  | assignOpen | assignPending | takeMain | prepareOk => exact h.frame (fun _ _ _ hj => of_upd hj) rfl rfl rfl
  | prepareFail => exact (h.complete false).forget fun _ => List.mem_cons_of_mem _
  | resolveDone i ok => exact h.complete ok

theorem MergeReach.hist {s : MergeSt} (h : MergeReach s) : MergeHist s := by
  induction h with
  | init => exact ⟨nofun, nofun, ⟨nofun, nofun⟩, ⟨nofun, nofun⟩⟩
  | step _ st ih => exact ih.step st

end Oras
