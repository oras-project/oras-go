/-
  Exactness of the resolver's per-node tag sets (`resolver.Memory.tags`), on which
  `Store.isTagged` — and with it the auto-GC cascade — relies (C09, finding F16).
-/
import OrasModel.Proofs.OciDelete
namespace Oras
namespace OciSt

/-- Every name in a node's tag set is a live reference to that node, and tag sets are
    duplicate-free (they are `set.Set`s). -/
def TagsExact (st : OciSt) : Prop :=
  (∀ n k, k ∈ st.tagsOf n → ∃ a, st.lookupRef k = some (n, a)) ∧ (∀ n, (st.tagsOf n).Nodup)

theorem tagsExact_empty : TagsExact OciSt.empty :=
  ⟨fun _ _ h => absurd h List.not_mem_nil, fun _ => List.nodup_nil⟩

theorem tagsExact_resolverUntag (st : OciSt) (k : RefKey) (hx : TagsExact st) :
    TagsExact (st.resolverUntag k) := by
  refine ⟨fun m k' hk' => ?_, fun m => ?_⟩
  · rw [lookupRef_resolverUntag]
    -- `k` itself is in no tag set any more
    rw [tagsOf_resolverUntag] at hk'
    split at hk'
    · rw [(hx.2 m).mem_erase_iff] at hk'
      rw [if_neg hk'.1]; exact hx.1 m k' hk'.2
    · next hc =>
      obtain ⟨a, ha⟩ := hx.1 m k' hk'
      rw [if_neg fun e => hc (by rw [← e, ha]; rfl)]; exact ⟨a, ha⟩
  · rw [tagsOf_resolverUntag]
    split
    · exact (hx.2 m).erase k
    · exact hx.2 m

theorem tagsExact_resolverTag (st : OciSt) (n : Node) (a : Nat) (k : RefKey) (hx : TagsExact st) :
    TagsExact (st.resolverTag n a k) := by
  have hu := tagsExact_resolverUntag st k hx
  refine ⟨fun m k' hk' => ?_, fun m => ?_⟩
  · rw [lookupRef_resolverTag]
    rw [tagsOf_resolverTag] at hk'
    split at hk'
    · next hm =>
      subst hm
      by_cases e : k' = k
      · exact ⟨a, if_pos e⟩
      · rw [if_neg e]; exact hx.1 m k' ((mem_insertTag.mp hk').resolve_left e)
    · -- after `Untag k` no tag set holds `k`, and the other names point where they did
      obtain ⟨a', ha'⟩ := hu.1 m k' hk'
      rw [lookupRef_resolverUntag] at ha'
      split at ha'
      · cases ha'
      · rw [if_neg ‹_›]; exact ⟨a', ha'⟩
  · rw [tagsOf_resolverTag]
    split
    · split
      · exact hx.2 n
      · next hnot =>
        exact List.nodup_append.mpr ⟨hx.2 n, by simp, fun x hx1 y hy e =>
          hnot (e.trans (List.mem_singleton.mp hy) ▸ hx1)⟩
    · exact hu.2 m

theorem tagsExact_deleteOne (st : OciSt) (n : Node) (h : TagsExact st) : TagsExact (st.deleteOne n).1 := by
  unfold TagsExact lookupRef; rw [refs_deleteOne, tagsOf_deleteOne]
  exact untagAll_induct st n h fun s e _ _ => tagsExact_resolverUntag s e.1

theorem isTagged_iff_erase (st : OciSt) (n : Node) :
    st.isTagged n = true ↔ (st.tagsOf n).erase (.dig n) ≠ [] := by
  unfold isTagged
  rw [← List.length_pos_iff, List.length_erase]
  simp only [List.contains_eq_mem, decide_eq_true_eq]
  split <;> simp only [decide_eq_true_eq] <;> omega

theorem isTagged_of_mem (st : OciSt) (n : Node) (k : RefKey) (hk : k ∈ st.tagsOf n)
    (hne : k ≠ .dig n) : st.isTagged n = true :=
  (isTagged_iff_erase st n).mpr (List.ne_nil_of_mem ((List.mem_erase_of_ne hne).mpr hk))

theorem exists_of_isTagged (st : OciSt) (n : Node) (hnd : (st.tagsOf n).Nodup)
    (h : st.isTagged n = true) : ∃ k ∈ st.tagsOf n, k ≠ .dig n := by
  obtain ⟨k, hk⟩ := List.exists_mem_of_ne_nil _ ((isTagged_iff_erase st n).mp h)
  exact ⟨k, (hnd.mem_erase_iff.mp hk).2, (hnd.mem_erase_iff.mp hk).1⟩

/-- No reference *name* points at `d`. -/
def NoTagRef (st : OciSt) (d : Node) : Prop := ∀ e ∈ st.refs, e.2.1 = d → ∀ nm, e.1 ≠ .tag nm

theorem noTagRef_of_not_isTagged (st : OciSt) (d : Node) (hinv : RefTagInv st)
    (h : st.isTagged d = false) : NoTagRef st d := by
  intro e he hed nm hk
  have := isTagged_of_mem st d (.tag nm) (hk ▸ hed ▸ hinv e he) (fun e => nomatch e)
  rw [h] at this; cases this

theorem isTagged_deleteOne_of_ne (st : OciSt) (n x : Node) (hu : RefUniq st) (hx : x ≠ n) :
    (st.deleteOne n).1.isTagged x = st.isTagged x := by
  unfold isTagged; rw [tagsOf_deleteOne_of_ne st n x hu hx]

end OciSt
end Oras
