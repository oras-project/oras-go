/-
  Lemmas that proofs about several models share: point updates of a function written as an
  `if` (the per-process program counters of `Model/Once`, `Model/Merge`, `Model/MergeIdx`), and
  association lists with replace-on-write and lookup by `find?` (`Model/Oci`, `Model/Stores`,
  `Model/Cred`, `Model/Auth`, `Model/Remote`).
-/
namespace Oras

theorem upd_cases {α : Type} {pc : Nat → α} {i j : Nat} {v w : α}
    (h : (if j = i then v else pc j) = w) : j = i ∧ v = w ∨ j ≠ i ∧ pc j = w := by
  by_cases e : j = i
  · rw [if_pos e] at h; exact .inl ⟨e, h⟩
  · rw [if_neg e] at h; exact .inr ⟨e, h⟩

theorem of_upd {α : Type} {pc : Nat → α} {i j : Nat} {v w : α}
    (h : (if j = i then v else pc j) = w) (hv : v ≠ w := by nofun) : pc j = w :=
  (upd_cases h).elim (fun e => absurd e.2 hv) (·.2)

theorem find?_filter_of_imp {α : Type} {l : List α} {p q : α → Bool} (h : ∀ a, q a = true → p a = true) :
    (l.filter p).find? q = l.find? q := by
  rw [List.find?_filter]
  congr
  funext a
  cases hq : q a
  · simp
  · simp [h a hq]

theorem assoc_write {κ β : Type} [DecidableEq κ] (l : List (κ × β)) (k k' : κ) (v : β) :
    (((k, v) :: l.filter (·.1 ≠ k)).find? (·.1 = k')).map (·.2) =
      if k' = k then some v else (l.find? (·.1 = k')).map (·.2) := by
  by_cases h : k' = k
  · simp [h]
  · rw [List.find?_cons_of_neg (by simpa using fun e => h e.symm), if_neg h,
      find?_filter_of_imp fun a ha => by simp only [decide_eq_true_eq] at ha; simp [ha, h]]

theorem assoc_remove {κ β : Type} [DecidableEq κ] (l : List (κ × β)) (k k' : κ) :
    ((l.filter (·.1 ≠ k)).find? (·.1 = k')).map (·.2) =
      if k' = k then none else (l.find? (·.1 = k')).map (·.2) := by
  by_cases h : k' = k
  · rw [if_pos h, List.find?_eq_none.mpr (by simp [h]), Option.map_none]
  · rw [if_neg h, find?_filter_of_imp fun a ha => by simp only [decide_eq_true_eq] at ha; simp [ha, h]]

theorem assoc_mem_of_find {κ β : Type} [DecidableEq κ] {l : List (κ × β)} {k : κ} {v : β}
    (h : (l.find? (·.1 = k)).map (·.2) = some v) : (k, v) ∈ l := by
  obtain ⟨e, he, rfl⟩ := Option.map_eq_some_iff.mp h
  have hk : e.1 = k := by simpa using List.find?_some he
  exact hk ▸ List.mem_of_find?_eq_some he

theorem assoc_find_of_mem {κ β : Type} [DecidableEq κ] {l : List (κ × β)} (hu : (l.map (·.1)).Nodup)
    {k : κ} {v : β} (h : (k, v) ∈ l) : (l.find? (·.1 = k)).map (·.2) = some v := by
  induction l with
  | nil => cases h
  | cons e es ih =>
    rw [List.map_cons, List.nodup_cons] at hu
    cases h with
    | head => simp
    | tail _ h' =>
      have hne : ¬ e.1 = k := fun e' => hu.1 (e' ▸ List.mem_map_of_mem (f := (·.1)) h')
      rw [List.find?_cons_of_neg (by simpa using hne)]
      exact ih hu.2 h'

end Oras
