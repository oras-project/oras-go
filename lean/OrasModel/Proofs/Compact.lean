/- The in-place compaction loop equals `List.filter` (`Model/Compact.lean`). -/
import OrasModel.Model.Compact
namespace Oras.Compact

/-- The loop invariant: writing at `j ≤ i` never touches a cell that is still to be read. -/
theorem loop_atCursor {α : Type} (keep : α → Bool) (fuel i j : Nat) (arr : List α) (hji : j ≤ i)
    (hlen : arr.length ≤ i + fuel) :
    (loop keep atCursor fuel i j arr).1.take (loop keep atCursor fuel i j arr).2
      = arr.take j ++ (arr.drop i).filter keep := by
  fun_induction loop keep atCursor fuel i j arr with
  | case1 i j arr => rw [List.drop_eq_nil_of_le (by omega)]; simp
  | case2 fuel i j arr hnone => rw [List.drop_eq_nil_of_le (List.getElem?_eq_none_iff.mp hnone)]; simp
  | case3 fuel i j arr x hx hk ih =>
    obtain ⟨hi, rfl⟩ := List.getElem?_eq_some_iff.mp hx
    -- kept: `arr[i]` goes to cell `j`, where it is already when `i = j`; the cells from `i + 1` on
    -- are as they were
    have hset : (if i ≠ j then arr.set (atCursor i j) arr[i] else arr) = arr.set j arr[i] :=
      ite_eq_left_iff.mpr fun e => by cases Decidable.not_not.mp e; exact (List.set_getElem_self hi).symm
    rw [hset] at ih ⊢
    rw [ih (by omega) (by rw [List.length_set]; omega), List.drop_set_of_lt (by omega), List.take_add_one,
      List.getElem?_set_self (by omega), List.take_set_of_le (Nat.le_refl j), List.drop_eq_getElem_cons hi,
      List.filter_cons_of_pos hk, List.append_assoc]
    rfl
  | case4 fuel i j arr x hx hk ih =>
    obtain ⟨hi, rfl⟩ := List.getElem?_eq_some_iff.mp hx
    rw [ih (by omega) (by omega), List.drop_eq_getElem_cons hi, List.filter_cons_of_neg hk]

theorem compact_eq_filter {α : Type} (keep : α → Bool) (xs : List α) :
    compact keep atCursor xs = xs.filter keep := by
  simpa [compact] using loop_atCursor keep xs.length 0 0 xs (Nat.le_refl 0) (by omega)

end Oras.Compact
