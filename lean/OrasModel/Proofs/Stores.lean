/-
  The file store of `Model/Stores.lean` (C06, C07): the invariant that ties the digest → path map
  and the names to complete files; states that agree up to what nothing looks at, which is all a
  failed `Push` can change; `Push` as `store` followed by `finish`.
-/
import OrasModel.Model.Stores
import OrasModel.Proofs.Basic
namespace Oras
namespace FileSt

theorem fileAt_writeFile (st : FileSt) (p p' : Nat) (b : FileBytes) :
    (st.writeFile p b).fileAt p' = if p' = p then some b else st.fileAt p' :=
  assoc_write st.files p p' b

theorem fileAt_removeFile (st : FileSt) (p p' : Nat) :
    (st.removeFile p).fileAt p' = if p' = p then none else st.fileAt p' :=
  assoc_remove st.files p p'

@[simp] theorem pathOf_removeFile (st : FileSt) (p : Nat) (d : Nat) :
    (st.removeFile p).pathOf d = st.pathOf d := rfl

@[simp] theorem pathOf_writeFile (st : FileSt) (p : Nat) (b : FileBytes) (d : Nat) :
    (st.writeFile p b).pathOf d = st.pathOf d := rfl

/-- The file-store invariant: the digest → path map only points at named, complete files
    holding exactly that digest's bytes; every name that "exists" is a complete file. -/
structure Inv (st : FileSt) : Prop where
  d2p : ∀ d p, st.pathOf d = some p → st.fileAt p = some (.ok d) ∧ p ∈ st.names
  named : ∀ nm ∈ st.names, ∃ d, st.fileAt nm = some (.ok d)

theorem inv_empty : Inv FileSt.empty := ⟨nofun, nofun⟩

/-- `st'` is `st` up to what nothing looks at: files under names that do not exist (and the
    references and the graph, which the disk operations do not read). -/
structure Agree (st st' : FileSt) : Prop where
  names : st'.names = st.names
  pathOf : ∀ d, st'.pathOf d = st.pathOf d
  fallback : st'.fallback = st.fallback
  fileAt : ∀ p ∈ st.names, st'.fileAt p = st.fileAt p

theorem Agree.refl (st : FileSt) : Agree st st := ⟨rfl, fun _ => rfl, rfl, fun _ _ => rfl⟩

theorem agree_writeFile (st : FileSt) {nm : Nat} (hn : nm ∉ st.names) (b : FileBytes) :
    Agree st (st.writeFile nm b) :=
  ⟨rfl, fun _ => rfl, rfl, fun p hp => by rw [fileAt_writeFile, if_neg fun e : p = nm => hn (e ▸ hp)]⟩

theorem agree_removeFile (st : FileSt) {nm : Nat} (hn : nm ∉ st.names) : Agree st (st.removeFile nm) :=
  ⟨rfl, fun _ => rfl, rfl, fun p hp => by rw [fileAt_removeFile, if_neg fun e : p = nm => hn (e ▸ hp)]⟩

theorem Inv.of_agree {st st' : FileSt} (h : Inv st) (a : Agree st st') : Inv st' where
  d2p d p hd := by
    rw [a.pathOf] at hd
    have ⟨h1, h2⟩ := h.d2p d p hd
    exact ⟨(a.fileAt p h2).trans h1, a.names ▸ h2⟩
  named nm hnm := by
    rw [a.names] at hnm
    exact (h.named nm hnm).imp fun d hd => (a.fileAt nm hnm).trans hd

theorem Agree.observe (c : StoreCfg) {st st' : FileSt} (h : Inv st) (a : Agree st st') (q : SDesc) :
    exists_ c st' q = exists_ c st q ∧ fetch c st' q = fetch c st q := by
  unfold exists_ fetch gate
  rw [a.names, a.pathOf, a.fallback]
  refine ⟨rfl, ?_⟩
  cases hq : st.pathOf (c.dig q.node) with
  | none => rfl
  | some p => simp only [a.fileAt p (h.d2p _ p hq).2]

theorem Inv.record {st : FileSt} (h : Inv st) {nm d : Nat} (hf : st.fileAt nm = some (.ok d)) :
    Inv { st with d2p := (d, nm) :: st.d2p.filter (·.1 ≠ d), names := nm :: st.names } where
  d2p d' p hd := by
    replace hd : (if d' = d then some nm else st.pathOf d') = some p :=
      (assoc_write st.d2p d d' nm).symm.trans hd
    show st.fileAt p = _ ∧ p ∈ nm :: st.names
    split at hd
    · cases hd; subst d'
      exact ⟨hf, List.mem_cons_self⟩
    · exact (h.d2p d' p hd).imp_right (List.mem_cons_of_mem _)
  named x hx := by
    rcases List.mem_cons.mp hx with rfl | hx
    · exact ⟨d, hf⟩
    · exact h.named x hx

theorem pushNamed_outcome (c : StoreCfg) (st : FileSt) (n : Node) (nm : Nat)
    (good noOverwrite removeOnFail : Bool) :
    (∃ e, (pushNamed c false st n nm good noOverwrite removeOnFail).2 = .error e ∧
      Agree st (pushNamed c false st n nm good noOverwrite removeOnFail).1) ∨
    nm ∉ st.names ∧ pushNamed c false st n nm good noOverwrite removeOnFail =
      ({ st.writeFile nm (.ok (c.dig n)) with
          d2p := (c.dig n, nm) :: st.d2p.filter (·.1 ≠ c.dig n), names := nm :: st.names }, .ok ()) := by
  rw [pushNamed]
  by_cases hn : nm ∈ st.names
  · rw [if_pos hn]; exact .inl ⟨_, rfl, .refl st⟩
  rw [if_neg hn]
  by_cases ho : noOverwrite = true ∧ (st.fileAt nm).isSome = true
  · rw [if_pos ho]; exact .inl ⟨_, rfl, .refl st⟩
  rw [if_neg ho]
  cases good
  · cases removeOnFail
    · exact .inl ⟨_, rfl, agree_writeFile st hn _⟩
    · exact .inl ⟨_, rfl, agree_removeFile st hn⟩
  · exact .inr ⟨hn, rfl⟩

/-- The first half of `Push`: the content is stored, in the fallback store or under its name. -/
def store (c : StoreCfg) (recordEarly : Bool) (st : FileSt) (d : SDesc) (good noOverwrite removeOnFail : Bool) :
    FileSt × Except SErr Unit :=
  match d.name with
  | none =>
    if d.node ∈ st.fallback then (st, .error .alreadyExists)
    else if !good then (st, .error .verify)
    else ({ st with fallback := d.node :: st.fallback }, .ok ())
  | some nm => pushNamed c recordEarly st d.node nm good noOverwrite removeOnFail

/-- The second half: duplicates are restored (unless `ForceCAS`) and the graph is indexed. -/
def finish (c : StoreCfg) (forceCAS : Bool) (s : FileSt) (n : Node) : FileSt :=
  let s1 := if c.isMan n && !forceCAS then restore c s n else s
  { s1 with graph := s1.graph.index n (if c.isMan n then c.succ n else []) }

theorem push_eq (c : StoreCfg) (recordEarly : Bool) (st : FileSt) (d : SDesc)
    (good forceCAS noOverwrite removeOnFail ignoreNoName : Bool) :
    push c recordEarly st d good forceCAS noOverwrite removeOnFail ignoreNoName =
      if ignoreNoName ∧ d.name = none then (st, .ok ()) else
      match store c recordEarly st d good noOverwrite removeOnFail with
      | (s, .error e) => (s, .error e)
      | (s, .ok ()) => (finish c forceCAS s d.node, .ok ()) := rfl

theorem store_cases (c : StoreCfg) (recordEarly : Bool) (st : FileSt) (d : SDesc)
    (good noOverwrite removeOnFail : Bool) :
    (∃ e, store c recordEarly st d good noOverwrite removeOnFail = (st, .error e)) ∨
    store c recordEarly st d good noOverwrite removeOnFail =
      ({ st with fallback := d.node :: st.fallback }, .ok ()) ∨
    ∃ nm, store c recordEarly st d good noOverwrite removeOnFail =
      pushNamed c recordEarly st d.node nm good noOverwrite removeOnFail := by
  rw [store]
  cases d.name with
  | some nm => exact .inr (.inr ⟨nm, rfl⟩)
  | none =>
    by_cases hf : d.node ∈ st.fallback
    · exact .inl ⟨_, if_pos hf⟩
    · cases good
      · exact .inl ⟨_, (if_neg hf).trans rfl⟩
      · exact .inr (.inl ((if_neg hf).trans rfl))

theorem store_error (c : StoreCfg) (st s : FileSt) (d : SDesc) (good noOverwrite removeOnFail : Bool) (e : SErr)
    (he : store c false st d good noOverwrite removeOnFail = (s, .error e)) : Agree st s := by
  rcases store_cases c false st d good noOverwrite removeOnFail with ⟨e', h⟩ | h | ⟨nm, h⟩ <;> rw [h] at he
  · cases he; exact .refl st
  · cases he
  · rcases pushNamed_outcome c st d.node nm good noOverwrite removeOnFail with ⟨_, _, ha⟩ | ⟨_, hp⟩
    · rwa [he] at ha
    · rw [hp] at he; cases he

theorem inv_pushNamed (c : StoreCfg) (st : FileSt) (n : Node) (nm : Nat) (good noOverwrite removeOnFail : Bool)
    (h : Inv st) :
    Inv (pushNamed c false st n nm good noOverwrite removeOnFail).1 := by
  rcases pushNamed_outcome c st n nm good noOverwrite removeOnFail with ⟨_, _, ha⟩ | ⟨hn, hp⟩
  · exact h.of_agree ha
  · -- writing under a name that does not exist changes nothing that is looked at
    rw [hp]
    exact (h.of_agree (agree_writeFile st hn _)).record ((fileAt_writeFile ..).trans (if_pos rfl))

theorem restore_induct (c : StoreCfg) (st : FileSt) (m : Node) (P : FileSt → Prop) (h : P st)
    (hstep : ∀ s n nm, P s → P (pushNamed c false s n nm true).1) : P (restore c st m) :=
  List.foldlRecOn _ _ (motive := P) h fun s hs d _ => by
    split
    · exact hs
    · split
      · exact hs
      · split
        · split
          · exact hstep s _ _ hs
          · exact hs
        · exact hs

theorem inv_restore (c : StoreCfg) (st : FileSt) (m : Node) (h : Inv st) : Inv (restore c st m) :=
  restore_induct c st m Inv h fun s n nm hs => inv_pushNamed c s n nm true false false hs

theorem inv_store (c : StoreCfg) (st : FileSt) (d : SDesc) (good noOverwrite removeOnFail : Bool) (h : Inv st) :
    Inv (store c false st d good noOverwrite removeOnFail).1 := by
  rcases store_cases c false st d good noOverwrite removeOnFail with ⟨e, hs⟩ | hs | ⟨nm, hs⟩ <;> rw [hs]
  · exact h
  · exact ⟨h.d2p, h.named⟩
  · exact inv_pushNamed c st d.node nm good noOverwrite removeOnFail h

theorem inv_finish (c : StoreCfg) (forceCAS : Bool) (s : FileSt) (n : Node) (h : Inv s) :
    Inv (finish c forceCAS s n) := by
  have h1 : Inv (if c.isMan n && !forceCAS then restore c s n else s) := by
    cases c.isMan n && !forceCAS
    · exact h
    · exact inv_restore c s n h
  exact ⟨h1.d2p, h1.named⟩

theorem inv_push (c : StoreCfg) (st : FileSt) (d : SDesc) (good forceCAS noOverwrite removeOnFail ignoreNoName : Bool)
    (h : Inv st) :
    Inv (push c false st d good forceCAS noOverwrite removeOnFail ignoreNoName).1 := by
  rw [push_eq]
  split
  · exact h
  · have hs := inv_store c st d good noOverwrite removeOnFail h
    split
    · next heq => rwa [heq] at hs
    · next heq => rw [heq] at hs; exact inv_finish c forceCAS _ _ hs

theorem push_error (c : StoreCfg) (st : FileSt) (d : SDesc) (good forceCAS noOverwrite removeOnFail ignoreNoName : Bool)
    (e : SErr)
    (he : (push c false st d good forceCAS noOverwrite removeOnFail ignoreNoName).2 = .error e) :
    Agree st (push c false st d good forceCAS noOverwrite removeOnFail ignoreNoName).1 := by
  rw [push_eq] at he ⊢
  split at he
  · cases he
  · rw [if_neg ‹_›]
    split at he
    · next s e' hs => exact store_error c st s d good noOverwrite removeOnFail e' hs
    · cases he

theorem pushNamed_graph (c : StoreCfg) (recordEarly : Bool) (st : FileSt) (n : Node) (nm : Nat)
    (good noOverwrite removeOnFail : Bool) :
    (pushNamed c recordEarly st n nm good noOverwrite removeOnFail).1.graph = st.graph := by
  rw [pushNamed]
  split
  · rfl
  split
  · rfl
  cases recordEarly <;> cases good <;> cases removeOnFail <;> rfl

theorem restore_graph (c : StoreCfg) (st : FileSt) (m : Node) : (restore c st m).graph = st.graph :=
  restore_induct c st m (fun s => s.graph = st.graph) rfl fun _ _ _ hs => (pushNamed_graph ..).trans hs

theorem finish_graph (c : StoreCfg) (forceCAS : Bool) (s : FileSt) (n : Node) :
    (finish c forceCAS s n).graph = s.graph.index n (if c.isMan n then c.succ n else []) := by
  have h1 : (if c.isMan n && !forceCAS then restore c s n else s).graph = s.graph := by
    cases c.isMan n && !forceCAS
    · rfl
    · exact restore_graph c s n
  exact congrArg (GMem.index · n _) h1

end FileSt
end Oras
