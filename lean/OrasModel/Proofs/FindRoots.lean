/-
  The `findRoots` loop (C03): its iterations as a relation with three cases, the rule for
  reasoning about the fuelled run, the loop invariant and what it gives at loop exit (every
  visited node has a root above it), and termination of the loop over a finite universe.
-/
import OrasModel.Model.FindRoots
namespace Oras

theorem mem_addRoot (n r : Node) (roots : List Node) : r ∈ addRoot n roots ↔ r = n ∨ r ∈ roots := by
  unfold addRoot
  split
  · next h => exact ⟨.inr, fun hr => hr.elim (· ▸ h) id⟩
  · exact List.mem_cons

def pushed (preds : Node → List Node) (n : Node) (d : Nat) (vis : List Node) : List (Node × Nat) :=
  (((preds n).filter fun p => decide (p ∉ n :: vis)).map fun p => (p, d + 1)).reverse

theorem mem_pushed {preds n d vis v e} : (v, e) ∈ pushed preds n d vis ↔ v ∈ preds n ∧ v ∉ n :: vis ∧ e = d + 1 := by
  simp only [pushed, List.mem_reverse, List.mem_map, List.mem_filter, Prod.mk.injEq, decide_eq_true_eq]
  exact ⟨fun ⟨_, h, e1, e2⟩ => e1 ▸ ⟨h.1, h.2, e2.symm⟩, fun ⟨h1, h2, e⟩ => ⟨v, ⟨h1, h2⟩, rfl, e.symm⟩⟩

theorem length_pushed_le (preds : Node → List Node) (n : Node) (d : Nat) (vis : List Node) :
    (pushed preds n d vis).length ≤ (preds n).length := by
  simp only [pushed, List.length_reverse, List.length_map]
  exact List.length_filter_le _ _

inductive FRStep (preds : Node → List Node) (depth : Nat) : FRSt → FRSt → Prop
  | pop {n d rest vis roots} : n ∈ vis → FRStep preds depth ⟨(n, d) :: rest, vis, roots⟩ ⟨rest, vis, roots⟩
  | root {n d rest vis roots} : n ∉ vis → (preds n = [] ∨ depth > 0 ∧ d = depth) →
      FRStep preds depth ⟨(n, d) :: rest, vis, roots⟩ ⟨rest, n :: vis, addRoot n roots⟩
  | expand {n d rest vis roots} : n ∉ vis → preds n ≠ [] → ¬(depth > 0 ∧ d = depth) →
      FRStep preds depth ⟨(n, d) :: rest, vis, roots⟩ ⟨pushed preds n d vis ++ rest, n :: vis, roots⟩

theorem frStep_cases (preds : Node → List Node) (depth : Nat) (s : FRSt) :
    s.stack = [] ∧ frStep preds depth s = none ∨ ∃ s', frStep preds depth s = some s' ∧ FRStep preds depth s s' := by
  obtain ⟨stack, vis, roots⟩ := s
  match stack with
  | [] => exact .inl ⟨rfl, rfl⟩
  | (n, d) :: rest =>
    right
    by_cases hv : n ∈ vis
    · exact ⟨_, if_pos hv, .pop hv⟩
    by_cases hd : depth > 0 ∧ d = depth
    · exact ⟨_, (if_neg hv).trans (if_pos hd), .root hv (.inr hd)⟩
    by_cases hp : preds n = []
    · exact ⟨_, (if_neg hv).trans ((if_neg hd).trans (if_pos hp)), .root hv (.inl hp)⟩
    · exact ⟨_, (if_neg hv).trans ((if_neg hd).trans (if_neg hp)), .expand hv hp hd⟩

theorem frRun_invariant {preds depth} {P : FRSt → Prop} (hP : ∀ s s', FRStep preds depth s s' → P s → P s') :
    ∀ {fuel s s'}, frRun preds depth fuel s = some s' → P s → P s' ∧ s'.stack = []
  | fuel + 1, s, s', h, hs => by
    unfold frRun at h
    obtain ⟨he, hn⟩ | ⟨s1, h1, hstep⟩ := frStep_cases preds depth s
    · rw [hn] at h; cases h; exact ⟨hs, he⟩
    · rw [h1] at h; exact frRun_invariant hP h (hP s s1 hstep hs)

def Seen (s : FRSt) (v : Node) : Prop := v ∈ s.visited ∨ ∃ d, (v, d) ∈ s.stack

theorem seen_mono {preds depth s s' v} (h : FRStep preds depth s s') : Seen s v → Seen s' v := by
  rintro (hv | ⟨e, he⟩)
  · cases h with
    | pop => exact .inl hv
    | root | expand => exact .inl (List.mem_cons_of_mem _ hv)
  -- an entry of the stack is the one popped, visited by now, or is still there
  · cases h with
    | pop hn => exact (List.mem_cons.mp he).elim (fun hh => by cases hh; exact .inl hn) fun hh => .inr ⟨e, hh⟩
    | root =>
      exact (List.mem_cons.mp he).elim (fun hh => by cases hh; exact .inl List.mem_cons_self) fun hh => .inr ⟨e, hh⟩
    | expand =>
      exact (List.mem_cons.mp he).elim (fun hh => by cases hh; exact .inl List.mem_cons_self)
        fun hh => .inr ⟨e, List.mem_append_right _ hh⟩

theorem roots_mono {preds depth s s' r} (h : FRStep preds depth s s') (hr : r ∈ s.roots) : r ∈ s'.roots := by
  cases h with
  | pop | expand => exact hr
  | root => exact (mem_addRoot _ _ _).mpr (.inr hr)

/-- The loop invariant of `findRoots` from `n0`.  `stack_anc` and `roots_ok` bound what is found;
    `expanded` carries completeness: a visited node is a root, or all its predecessors have been met. -/
structure FRInv (preds : Node → List Node) (depth : Nat) (n0 : Node) (s : FRSt) : Prop where
  start : Seen s n0
  stack_anc : ∀ v d, (v, d) ∈ s.stack → AncN preds n0 d v ∧ (depth > 0 → d ≤ depth)
  roots_ok : ∀ r ∈ s.roots,
    ∃ d, AncN preds n0 d r ∧ (depth > 0 → d ≤ depth) ∧ (preds r = [] ∨ (depth > 0 ∧ d = depth))
  expanded : ∀ v ∈ s.visited, v ∈ s.roots ∨ (preds v ≠ [] ∧ ∀ p ∈ preds v, Seen s p)

theorem frInv_init (preds : Node → List Node) (depth : Nat) (n0 : Node) :
    FRInv preds depth n0 (FRSt.init n0) := by
  refine ⟨.inr ⟨0, List.mem_singleton_self _⟩, ?_, nofun, nofun⟩
  intro v d h
  cases List.mem_singleton.mp h
  exact ⟨.refl, fun _ => Nat.zero_le _⟩

theorem frInv_step {preds depth n0 s s'} (hs : FRStep preds depth s s') (h : FRInv preds depth n0 s) :
    FRInv preds depth n0 s' := by
  refine ⟨seen_mono hs h.start, ?_, ?_, ?_⟩
  · -- the stack: what stays was there; what is pushed is one step above the entry popped
    cases hs with
    | pop | root => exact fun v e hm => h.stack_anc v e (List.mem_cons_of_mem _ hm)
    | @expand n d _ _ _ _ _ hd =>
      obtain ⟨hanc, hdep⟩ := h.stack_anc n d List.mem_cons_self
      intro v e hm
      rcases List.mem_append.mp hm with h1 | h1
      · obtain ⟨hq, _, rfl⟩ := mem_pushed.mp h1
        -- the depth test failed (`hd`), so `d < depth` when there is a limit
        exact ⟨.step hanc hq, fun hpos => by have := hdep hpos; omega⟩
      · exact h.stack_anc v e (List.mem_cons_of_mem _ h1)
  · -- the roots: a new one is the entry popped
    cases hs with
    | pop | expand => exact h.roots_ok
    | @root n d _ _ _ _ why =>
      obtain ⟨hanc, hdep⟩ := h.stack_anc n d List.mem_cons_self
      intro r hr
      rcases (mem_addRoot n r _).mp hr with rfl | hr'
      · exact ⟨d, hanc, hdep, why⟩
      · exact h.roots_ok r hr'
  · -- a node visited before stays a root or expanded, by `seen_mono`; the one visited now
    have old : ∀ v ∈ s.visited, v ∈ s'.roots ∨ (preds v ≠ [] ∧ ∀ p ∈ preds v, Seen s' p) := fun v hv =>
      (h.expanded v hv).imp (roots_mono hs) fun ⟨hne, hp⟩ => ⟨hne, fun p hp' => seen_mono hs (hp p hp')⟩
    cases hs with
    | pop => exact old
    | root => exact List.forall_mem_cons.mpr ⟨.inl ((mem_addRoot _ _ _).mpr (.inl rfl)), old⟩
    | @expand n d rest vis _ _ hp0 =>
      refine List.forall_mem_cons.mpr ⟨.inr ⟨hp0, fun p hp => ?_⟩, old⟩
      by_cases hin : p ∈ n :: vis
      · exact .inl hin
      · exact .inr ⟨d + 1, List.mem_append_left _ (mem_pushed.mpr ⟨hp, hin, rfl⟩)⟩

theorem findRoots_exit {preds depth fuel n0 roots} (h : findRoots preds depth fuel n0 = some roots) :
    (∀ r ∈ roots, ∃ d, AncN preds n0 d r ∧ (depth > 0 → d ≤ depth) ∧ (preds r = [] ∨ (depth > 0 ∧ d = depth))) ∧
    ∃ visited : List Node, n0 ∈ visited ∧
      ∀ v ∈ visited, v ∈ roots ∨ (preds v ≠ [] ∧ ∀ p ∈ preds v, p ∈ visited) := by
  unfold findRoots at h
  obtain ⟨s, hr, rfl⟩ := Option.map_eq_some_iff.mp h
  obtain ⟨inv, hemp⟩ := frRun_invariant (fun _ _ => frInv_step) hr (frInv_init preds depth n0)
  have seen : ∀ v, Seen s v → v ∈ s.visited := fun v hv =>
    hv.elim id fun ⟨d, hd⟩ => by rw [hemp] at hd; cases hd
  exact ⟨inv.roots_ok, s.visited, seen _ inv.start, fun v hv =>
    (inv.expanded v hv).imp_right fun ⟨hne, hp⟩ => ⟨hne, fun p hp' => seen p (hp p hp')⟩⟩

theorem ancN_prepend {preds : Node → List Node} {v p : Node} (hp : p ∈ preds v) :
    ∀ {k : Nat} {x : Node}, AncN preds p k x → AncN preds v (k + 1) x := by
  intro k x hx
  induction hx with
  | refl => exact AncN.step (AncN.refl) hp
  | step _ hc ih => exact AncN.step ih hc

theorem ancN_mem_of_closed {preds : Node → List Node} {U : List Node} (hU : ∀ n ∈ U, ∀ p ∈ preds n, p ∈ U)
    {a v : Node} {k : Nat} (ha : a ∈ U) (h : AncN preds a k v) : v ∈ U := by
  induction h with
  | refl => exact ha
  | step _ hc ih => exact hU _ ih _ hc

theorem root_above {preds : Node → List Node} {visited roots : List Node}
    (hcl : ∀ v ∈ visited, v ∈ roots ∨ (preds v ≠ [] ∧ ∀ p ∈ preds v, p ∈ visited))
    (ht : Node → Nat) (H : Nat) (hup : ∀ v p, p ∈ preds v → ht v < ht p) (hH : ∀ v, ht v ≤ H) :
    ∀ v ∈ visited, ∃ r ∈ roots, Anc preds v r := by
  intro v hv
  -- by induction on the room left above `v`
  induction hm : H - ht v using Nat.strongRecOn generalizing v with | ind m ih =>
  rcases hcl v hv with h1 | ⟨hne, h1⟩
  · exact ⟨v, h1, 0, .refl⟩
  · obtain ⟨p, hp⟩ := List.exists_mem_of_ne_nil _ hne
    have := hup v p hp
    have := hH p
    obtain ⟨r, hr, k, hk⟩ := ih _ (by omega) p (h1 p hp) rfl
    exact ⟨r, hr, k + 1, ancN_prepend hp hk⟩

theorem length_filter_unvisited_lt {U vis : List Node} {a : Node} (hU : a ∈ U) (hv : a ∉ vis) :
    (U.filter (· ∉ a :: vis)).length < (U.filter (· ∉ vis)).length := by
  have : U.filter (· ∉ a :: vis) = (U.filter (· ∉ vis)).filter (· ≠ a) := by
    simp [List.filter_filter, not_or]
  rw [this]
  exact List.length_filter_lt_length_iff_exists.mpr ⟨a, List.mem_filter.mpr ⟨hU, by simpa using hv⟩, by simp⟩

/-- The termination measure: a node of the universe not visited yet weighs more than anything one
    visit can push. -/
def frMeasure (U : List Node) (B : Nat) (s : FRSt) : Nat :=
  (U.filter (· ∉ s.visited)).length * (B + 1) + s.stack.length

/-- The invariant is what places the entry popped, an ancestor of `n0`, in the universe. -/
theorem frStep_decreases {preds : Node → List Node} {depth : Nat} {U : List Node} {B : Nat}
    (hU : ∀ n ∈ U, ∀ p ∈ preds n, p ∈ U) (hB : ∀ n ∈ U, (preds n).length ≤ B) {n0 : Node} (h0 : n0 ∈ U)
    {s s' : FRSt} (inv : FRInv preds depth n0 s) (h : FRStep preds depth s s') :
    frMeasure U B s' < frMeasure U B s := by
  have top : ∀ {n d rest}, s.stack = (n, d) :: rest → n ∈ U := fun hs =>
    ancN_mem_of_closed hU h0 (inv.stack_anc _ _ (hs ▸ List.mem_cons_self)).1
  -- a first visit pays for everything it can push
  have pays : ∀ {n vis}, n ∈ U → n ∉ vis →
      (U.filter (· ∉ n :: vis)).length * (B + 1) + (B + 1) ≤ (U.filter (· ∉ vis)).length * (B + 1) := fun hn hv => by
    rw [← Nat.succ_mul]
    exact Nat.mul_le_mul_right _ (length_filter_unvisited_lt hn hv)
  cases h with
  | pop => exact Nat.lt_succ_self _
  | root hv =>
    have := pays (top rfl) hv
    simp only [frMeasure, List.length_cons]; omega
  | @expand n d rest vis _ hv =>
    have := pays (top rfl) hv
    have := Nat.le_trans (length_pushed_le preds n d vis) (hB n (top rfl))
    simp only [frMeasure, List.length_cons, List.length_append]; omega

theorem frRun_terminates {preds depth} {P : FRSt → Prop} {μ : FRSt → Nat}
    (hP : ∀ s s', FRStep preds depth s s' → P s → P s' ∧ μ s' < μ s) :
    ∀ (fuel : Nat) (s : FRSt), P s → μ s < fuel → ∃ s', frRun preds depth fuel s = some s'
  | 0, _, _, h => absurd h (Nat.not_lt_zero _)
  | fuel + 1, s, hs, hm => by
    unfold frRun
    obtain ⟨_, hn⟩ | ⟨s', h1, hstep⟩ := frStep_cases preds depth s
    · rw [hn]; exact ⟨s, rfl⟩
    · rw [h1]
      obtain ⟨hs', hlt⟩ := hP s s' hstep hs
      exact frRun_terminates hP fuel s' hs' (by omega)

end Oras
