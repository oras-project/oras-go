/-
  The invariant of concurrent pushes of one descriptor (`Model/PushRace.lean`) over every
  schedule: what holds whatever the commit primitive is, and what the atomic test-and-set adds.
-/
import OrasModel.Model.PushRace
namespace Oras.PushRace

/-- The four things a step does to `stored` and to the record of the pusher that moves. -/
inductive Move (cm : Commit) (b : Bool) (p : Pusher) : Bool → Pusher → Prop
  | advance (n : Nat) : p.pc < n → n ≤ 2 → (n = 2 → p.good = true) → Move cm b p b { p with pc := n }
  | exists_ : p.pc < 3 → b = true → Move cm b p b { p with pc := 3, res := some .exists_ }
  | verifyErr : p.pc < 3 → p.good = false → Move cm b p b { p with pc := 3, res := some .verifyErr }
  | accept : p.pc = 2 → (cm = .testAndSet → b = false) →
      Move cm b p true { p with pc := 3, res := some .ok }

theorem step_cases (cm : Commit) (s : St) (i : Nat) :
    3 ≤ (s.ps i).pc ∧ step cm s i = s ∨
    ∃ b' p', Move cm s.stored (s.ps i) b' p' ∧ step cm s i = ⟨b', fupd s.ps i p'⟩ := by
  match h : (s.ps i).pc with
  | 0 =>
    simp only [step, h]
    split
    · next hs => exact .inr ⟨_, _, .exists_ (by omega) hs, rfl⟩
    · exact .inr ⟨_, _, .advance 1 (by omega) (by omega) (by omega), rfl⟩
  | 1 =>
    simp only [step, h]
    split
    · next hg => exact .inr ⟨_, _, .advance 2 (by omega) (by omega) fun _ => hg, rfl⟩
    · next hg => exact .inr ⟨_, _, .verifyErr (by omega) (by simpa using hg), rfl⟩
  | 2 =>
    simp only [step, h]
    cases cm
    · simp only
      split
      · next hs => exact .inr ⟨_, _, .exists_ (by omega) hs, rfl⟩
      · next hs => exact .inr ⟨_, _, .accept h fun _ => by simpa using hs, rfl⟩
    · exact .inr ⟨_, _, .accept h nofun, rfl⟩
  | n + 3 => simp only [step, h]; exact .inl ⟨by omega, trivial⟩

/-- The fields of `Inv` that speak of one pusher; they hold whatever the others do and whatever the commit. -/
structure Local (g : Bool) (p : Pusher) : Prop where
  verified : p.pc = 2 → p.good = true
  okGood : p.res = some .ok → p.good = true
  resDone : p.res ≠ none → p.pc = 3
  doneRes : p.pc = 3 → p.res ≠ none
  pcLe : p.pc ≤ 3
  goodFixed : p.good = g
  verifyBad : p.res = some .verifyErr → p.good = false

theorem Local.res_none {g : Bool} {p : Pusher} (h : Local g p) (hlt : p.pc < 3) : p.res = none :=
  Decidable.byContradiction fun hr => by have := h.resDone hr; omega

theorem Local.move {cm : Commit} {b b' g : Bool} {p p' : Pusher} (h : Local g p)
    (hm : Move cm b p b' p') : Local g p' := by
  cases hm with
  | advance n h1 h2 h3 =>
    have hr := h.res_none (by omega)
    exact { verified := h3, okGood := by simp [hr], resDone := by simp [hr],
            doneRes := fun e => by simp at e; omega, pcLe := by simp; omega,
            goodFixed := h.goodFixed, verifyBad := by simp [hr] }
  | exists_ =>
    exact { verified := by simp, okGood := by simp, resDone := by simp, doneRes := by simp,
            pcLe := by simp, goodFixed := h.goodFixed, verifyBad := by simp }
  | verifyErr _ hg =>
    exact { verified := by simp, okGood := by simp, resDone := by simp, doneRes := by simp,
            pcLe := by simp, goodFixed := h.goodFixed, verifyBad := fun _ => hg }
  | accept h2 =>
    exact { verified := by simp, okGood := fun _ => h.verified h2, resDone := by simp,
            doneRes := by simp, pcLe := by simp, goodFixed := h.goodFixed, verifyBad := by simp }

/-- All of `Inv`, with the uniqueness of the accepted pusher only for the test-and-set.  `Safe` and
    `Inv` are its two readings, for any commit (`Core.safe`) and for the test-and-set (`Core.inv`). -/
structure Core (cm : Commit) (good : Nat → Bool) (s : St) : Prop where
  loc : ∀ i, Local (good i) (s.ps i)
  storedIff : s.stored = true ↔ ∃ i, (s.ps i).res = some .ok
  doneGood : ∀ i, (s.ps i).pc = 3 → (s.ps i).good = true → s.stored = true
  uniq : cm = .testAndSet → ∀ i j, (s.ps i).res = some .ok → (s.ps j).res = some .ok → i = j

structure Inv (good : Nat → Bool) (s : St) : Prop where
  /-- at most one pusher was accepted -/
  uniq : ∀ i j, (s.ps i).res = some .ok → (s.ps j).res = some .ok → i = j
  /-- the key is stored exactly when some pusher was accepted -/
  storedIff : s.stored = true ↔ ∃ i, (s.ps i).res = some .ok
  /-- a pusher with matching content that has returned leaves the key stored -/
  doneGood : ∀ i, (s.ps i).pc = 3 → (s.ps i).good = true → s.stored = true
  /-- only verified content reaches the commit -/
  verified : ∀ i, (s.ps i).pc = 2 → (s.ps i).good = true
  okGood : ∀ i, (s.ps i).res = some .ok → (s.ps i).good = true
  resDone : ∀ i, (s.ps i).res ≠ none → (s.ps i).pc = 3
  doneRes : ∀ i, (s.ps i).pc = 3 → (s.ps i).res ≠ none
  pcLe : ∀ i, (s.ps i).pc ≤ 3
  goodFixed : ∀ i, (s.ps i).good = good i
  verifyBad : ∀ i, (s.ps i).res = some .verifyErr → (s.ps i).good = false

/-- What holds whatever the commit primitive is: only verified content is ever committed. -/
structure Safe (s : St) : Prop where
  verified : ∀ i, (s.ps i).pc = 2 → (s.ps i).good = true
  okGood : ∀ i, (s.ps i).res = some .ok → (s.ps i).good = true
  storedBy : s.stored = true → ∃ i, (s.ps i).res = some .ok
  resDone : ∀ i, (s.ps i).res ≠ none → (s.ps i).pc = 3

theorem Core.safe {cm : Commit} {good : Nat → Bool} {s : St} (h : Core cm good s) : Safe s :=
  ⟨fun i => (h.loc i).verified, fun i => (h.loc i).okGood, h.storedIff.mp, fun i => (h.loc i).resDone⟩

theorem Core.inv {good : Nat → Bool} {s : St} (h : Core .testAndSet good s) : Inv good s :=
  ⟨h.uniq rfl, h.storedIff, h.doneGood, fun i => (h.loc i).verified, fun i => (h.loc i).okGood,
    fun i => (h.loc i).resDone, fun i => (h.loc i).doneRes, fun i => (h.loc i).pcLe,
    fun i => (h.loc i).goodFixed, fun i => (h.loc i).verifyBad⟩

theorem core_init (cm : Commit) (good : Nat → Bool) : Core cm good (init good) :=
  ⟨fun _ => ⟨nofun, nofun, nofun, nofun, Nat.zero_le _, rfl, nofun⟩,
    ⟨nofun, fun ⟨_, h⟩ => nomatch h⟩, nofun, fun _ _ _ h => nomatch h⟩

/-- A step that accepts nobody. -/
theorem Core.quiet {cm : Commit} {good : Nat → Bool} {s : St} {i : Nat} {p' : Pusher}
    (h : Core cm good s) (hl : Local (good i) p')
    (hok : p'.res = some .ok ↔ (s.ps i).res = some .ok)
    (hd : p'.pc = 3 → p'.good = true → s.stored = true) :
    Core cm good ⟨s.stored, fupd s.ps i p'⟩ := by
  have same : ∀ j, (fupd s.ps i p' j).res = some .ok ↔ (s.ps j).res = some .ok :=
    fupd_forall (P := fun j (q : Pusher) => q.res = some .ok ↔ (s.ps j).res = some .ok) (fun _ => Iff.rfl) hok
  refine ⟨fupd_forall h.loc hl, ?_,
    fupd_forall (P := fun _ (q : Pusher) => q.pc = 3 → q.good = true → _) h.doneGood hd, ?_⟩
  · simp only [same]; exact h.storedIff
  · simp only [same]; exact h.uniq

/-- With the test-and-set nothing was stored, so nobody had been accepted before. -/
theorem Core.accept {cm : Commit} {good : Nat → Bool} {s : St} {i : Nat} {p' : Pusher}
    (h : Core cm good s) (hl : Local (good i) p') (hok : p'.res = some .ok)
    (hns : cm = .testAndSet → s.stored = false) : Core cm good ⟨true, fupd s.ps i p'⟩ := by
  refine ⟨fupd_forall h.loc hl, ⟨fun _ => ⟨i, by simpa using hok⟩, fun _ => rfl⟩, fun _ _ _ => rfl, ?_⟩
  intro hcm
  have none_before : ∀ j, (s.ps j).res ≠ some .ok := fun j hj => by
    have := h.storedIff.mpr ⟨j, hj⟩
    rw [hns hcm] at this
    cases this
  have only_i : ∀ j, (fupd s.ps i p' j).res = some .ok → j = i := fun j hj =>
    Decidable.byContradiction fun e => none_before j (by rwa [fupd_other _ _ _ _ e] at hj)
  intro j k hj hk
  rw [only_i j hj, only_i k hk]

theorem core_step (cm : Commit) (good : Nat → Bool) (s : St) (i : Nat) (h : Core cm good s) :
    Core cm good (step cm s i) := by
  obtain ⟨_, e⟩ | ⟨b', p', hm, e⟩ := step_cases cm s i <;> rw [e]
  · exact h
  have hl := (h.loc i).move hm
  cases hm with
  | advance n h1 h2 => exact h.quiet hl Iff.rfl fun e => by simp at e; omega
  | exists_ h1 hb => exact h.quiet hl (by simp [(h.loc i).res_none h1]) fun _ _ => hb
  | verifyErr h1 hg => exact h.quiet hl (by simp [(h.loc i).res_none h1]) fun _ e => by simp [hg] at e
  | accept _ hns => exact h.accept hl rfl hns

theorem core_run (cm : Commit) (good : Nat → Bool) (sched : List Nat) :
    Core cm good (run cm (init good) sched) :=
  List.foldlRecOn (motive := Core cm good) sched (step cm) (core_init cm good)
    fun s h i _ => core_step cm good s i h

/-- `stored` never goes back. -/
theorem stored_mono (cm : Commit) (s : St) (i : Nat) (h : s.stored = true) : (step cm s i).stored = true := by
  obtain ⟨_, e⟩ | ⟨b', p', hm, e⟩ := step_cases cm s i <;> rw [e]
  · exact h
  · cases hm with
    | advance | exists_ | verifyErr => exact h
    | accept => rfl

end Oras.PushRace
