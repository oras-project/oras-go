/-
  C13 helper lemmas: what each uncorrupted reading call returns and sends, as a function of
  the registry state alone (the refinement to "a content store with tags"); what a successful
  push has stored; what the two composite calls, `Tag` and `Mount`, send.
-/
import OrasModel.Proofs.Remote
import OrasModel.Proofs.RemoteOps
namespace Oras.Proofs.Remote
open Oras Oras.Remote

section
variable {Body Dig : Type} [DecidableEq Dig]

section
variable (cx : Ctx Body Dig) (p : Prof) (g : Reg Body Dig) (rs : RState) (repo : String)

theorem fetchBlob_eq (t : Desc Dig) :
    fetchBlob cx p none g rs repo t =
      ⟨g, rs, match alookup (g.repos repo).blobs t.dig with
              | none => .err .notFound
              | some b => if cx.len b ≠ t.size then .err .lengthMismatch else .body b p.rg,
       [.getBlob repo t.dig]⟩ := by
  cases h : alookup (g.repos repo).blobs t.dig with
  | none => simp [fetchBlob, serve, applyCorrupt, h, statusErr]
  | some b =>
    by_cases hl : cx.len b = t.size <;>
      simp [fetchBlob, serve, applyCorrupt, h, blobFetchCheck, hl, vcd_served _ p.dh]

theorem resolveBlob_eq (d : Dig) :
    resolveBlob cx p none g rs repo d =
      ⟨g, rs, match alookup (g.repos repo).blobs d with
              | none => .err .notFound
              | some b => .desc ⟨octet, d, cx.len b⟩,
       [.headBlob repo d]⟩ := by
  cases h : alookup (g.repos repo).blobs d with
  | none => simp [resolveBlob, serve, applyCorrupt, h, statusErr]
  | some b => simp [resolveBlob, serve, applyCorrupt, h, genBlobDesc, vcd_served _ p.dh, octet]

theorem fetchRefBlob_eq (d : Dig) :
    fetchRefBlob cx p none g rs repo d =
      ⟨g, rs, match alookup (g.repos repo).blobs d with
              | none => .err .notFound
              | some b => .descBody ⟨octet, d, cx.len b⟩ b p.rg,
       [.getBlob repo d]⟩ := by
  cases h : alookup (g.repos repo).blobs d with
  | none => simp [fetchRefBlob, serve, applyCorrupt, h, statusErr]
  | some b => simp [fetchRefBlob, serve, applyCorrupt, h, genBlobDesc, vcd_served _ p.dh, octet]

theorem fetchManifest_eq (t : Desc Dig) :
    fetchManifest cx p none g rs repo t =
      ⟨g, rs, match alookup (g.repos repo).mans t.dig with
              | none => .err .notFound
              | some (mt, b) =>
                if mt ≠ t.mt then .err .mediaTypeMismatch
                else if cx.len b ≠ t.size then .err .lengthMismatch else .body b false,
       [.getMan repo (.dig t.dig)]⟩ := by
  cases h : alookup (g.repos repo).mans t.dig with
  | none => simp [fetchManifest, serve_getMan, manAt_dig, applyCorrupt, h, statusErr]
  | some v =>
    obtain ⟨mt, b⟩ := v
    by_cases hm : mt = t.mt <;> by_cases hl : cx.len b = t.size <;>
      simp [fetchManifest, serve_getMan, manAt_dig, applyCorrupt, h, manResp, manFetchCheck, hm, hl,
        vcd_served _ p.dh]

theorem resolveManifest_eq (ref : Ref Dig) :
    resolveManifest cx p none g rs repo ref =
      ⟨g, rs, match manAt g repo ref with
              | none => .err .notFound
              | some (d, mt, b) =>
                match ref with
                | .dig _ => .desc ⟨mt, d, cx.len b⟩
                | .tag _ => if p.dh then .desc ⟨mt, d, cx.len b⟩ else .err .missingDigestHeader,
       [.headMan repo ref]⟩ := by
  cases h : manAt g repo ref with
  | none => simp [resolveManifest, serve_headMan, applyCorrupt, h, statusErr]
  | some v =>
    obtain ⟨d, mt, b⟩ := v
    cases ref
    case' dig => cases (manAt_eq_some.1 h).1  -- a digest reference resolves to itself
    all_goals
      cases hd : p.dh <;>
        simp [resolveManifest, serve_headMan, applyCorrupt, h, manResp, genManifestDesc, refDigest?, hd]

/-- `FetchReference` on manifests needs the registry invariant when the digest header is
    absent: the digest is then computed from the body, which is filed under its own digest. -/
theorem fetchRefManifest_eq (ref : Ref Dig) (hinv : RegInv cx g) :
    fetchRefManifest cx p none g rs repo ref =
      ⟨g, rs, match manAt g repo ref with
              | none => .err .notFound
              | some (d, mt, b) => .descBody ⟨mt, d, cx.len b⟩ b false,
       [.getMan repo ref]⟩ := by
  cases h : manAt g repo ref with
  | none => simp [fetchRefManifest, serve_getMan, applyCorrupt, h, statusErr]
  | some v =>
    obtain ⟨d, mt, b⟩ := v
    have hH : cx.H b = d := (hinv repo).2 d mt b (manAt_eq_some.1 h).2
    cases ref
    case' dig => cases (manAt_eq_some.1 h).1  -- a digest reference resolves to itself
    all_goals
      cases hd : p.dh <;>
        simp [fetchRefManifest, serve_getMan, applyCorrupt, h, manResp, genManifestDesc, refDigest?, hd, hH]

theorem fetchBlob_body (t : Desc Dig) (b : Body) (sk : Bool) (h : (fetchBlob cx p none g rs repo t).res = .body b sk) :
    cx.len b = t.size ∧ alookup (g.repos repo).blobs t.dig = some b := by
  rw [fetchBlob_eq] at h
  dsimp only at h
  split at h
  · cases h
  next b' hb =>
    split at h
    · cases h
    next hl => cases h; exact ⟨Decidable.of_not_not hl, hb⟩

/-- The client compares the length, the registry the digest. -/
theorem pushBlob_res (d : Desc Dig) (b : Body) :
    (pushBlob cx p g rs repo d b).res =
      if cx.len b ≠ d.size then .err .contentMismatch
      else if cx.H b ≠ d.dig then .err .server else .ok := by
  by_cases hl : cx.len b = d.size <;> by_cases hH : cx.H b = d.dig <;> simp [pushBlob, serve, hl, hH]

theorem pushBlob_stored (d : Desc Dig) (b : Body) (hl : cx.len b = d.size) (hH : cx.H b = d.dig) :
    alookup ((pushBlob cx p g rs repo d b).reg.repos repo).blobs d.dig = some b := by
  simp [pushBlob, serve, hl, hH, alookup_aset]

theorem putManifest_ok_seen (d : Desc Dig) (b : Body) (ref : Ref Dig) (k : Bool)
    (h : (putManifest cx p g rs repo d b ref k).res = .ok) :
    (k = true → cx.len b = d.size) ∧
    (putManifest cx p g rs repo d b ref k).reg = (serve cx p g (.putMan repo ref d.mt d.size b)).1 ∧
    (serve cx p g (.putMan repo ref d.mt d.size b)).2.status = 201 ∧
    verifyContentDigest (serve cx p g (.putMan repo ref d.mt d.size b)).2 d.dig = .ok () := by
  unfold putManifest at h ⊢
  by_cases hk : (k && decide (cx.len b ≠ d.size)) = true
  · rw [if_pos hk] at h; cases h
  rw [if_neg hk] at h ⊢
  dsimp only at h ⊢
  generalize serve cx p g (.putMan repo ref d.mt d.size b) = s at h ⊢
  by_cases hs : s.2.status ≠ 201
  · rw [if_pos hs] at h; cases h
  rw [if_neg hs] at h ⊢
  cases hv : verifyContentDigest s.2 d.dig with
  | error e => rw [hv] at h; cases h
  | ok u => exact ⟨fun e => by simpa [e] using hk, rfl, Decidable.of_not_not hs, rfl⟩

theorem putManifest_ok (d : Desc Dig) (b : Body) (ref : Ref Dig) (k : Bool)
    (h : (putManifest cx p g rs repo d b ref k).res = .ok) :
    alookup ((putManifest cx p g rs repo d b ref k).reg.repos repo).mans (cx.H b) = some (d.mt, b) ∧
    (∀ t, ref = .tag t → alookup ((putManifest cx p g rs repo d b ref k).reg.repos repo).tags t = some (cx.H b)) ∧
    (ref = .dig d.dig → cx.H b = d.dig) ∧ (p.dh = true → cx.H b = d.dig) ∧ (k = true → cx.len b = d.size) := by
  obtain ⟨hk, hreg, hst, hv⟩ := putManifest_ok_seen cx p g rs repo d b ref k h
  obtain ⟨hm, ht, hd, hdcd⟩ := serve_putMan_created cx p g repo ref d.mt d.size b hst
  rw [hreg]
  refine ⟨hm, ht, fun e => (hd _ e).symm, fun hdh => ?_, hk⟩
  -- with digest headers on, the header names the digest of the bytes and the client compared it
  rw [vcd_ok_iff, hdcd, hdh] at hv
  simpa using hv

theorem pushManifest_ok (d : Desc Dig) (b : Body) (ref : Ref Dig)
    (h : (pushManifest cx p g rs repo d b ref).res = .ok) :
    alookup ((pushManifest cx p g rs repo d b ref).reg.repos repo).mans (cx.H b) = some (d.mt, b) ∧
    (∀ t, ref = .tag t → alookup ((pushManifest cx p g rs repo d b ref).reg.repos repo).tags t = some (cx.H b)) ∧
    (ref = .dig d.dig → cx.H b = d.dig) ∧ cx.len b = d.size := by
  rcases pushManifest_cases cx p g rs repo d b ref with e | ⟨rs', e⟩ <;> rw [e] at h ⊢
  · cases h
  · obtain ⟨h1, h2, h3, _, h5⟩ := putManifest_ok cx p g rs repo d b ref true h
    exact ⟨h1, h2, h3, h5 rfl⟩

/-- `Tag` sends the GET and then, only for a body of the described length and digest, the PUT
    under the tag: so the PUT declares the length it carries, whatever came back. -/
theorem allowed_tagManifest_any (c : Option (Corrupt Dig)) (d : Desc Dig) (t : String) :
    ∀ q ∈ (tagManifest cx p c g rs repo d t).trace, Allowed cx q = true := by
  have hf := fetchManifest_sent cx p g rs repo c d
  have hget := hf.allowed (List.forall_mem_singleton.2 rfl)
  unfold tagManifest
  generalize fetchManifest cx p c g rs repo d = o at hf hget ⊢
  obtain ⟨g', rs', res, tr⟩ := o
  cases res
  case body b sk =>
    dsimp only
    split
    · exact hget
    next hb =>
      have hl : cx.len b = d.size := Decidable.of_not_not fun h => hb (.inl h)
      exact (hf.append (putManifest_sent cx p g' rs' repo d b (.tag t) false)).allowed
        (List.forall_mem_cons.2 ⟨rfl, List.forall_mem_singleton.2 (decide_eq_true hl.symm)⟩)
  all_goals exact hget

theorem mountBlob_sent (d : Desc Dig) (src : String) :
    ∃ tr, Sent cx p g (mountBlob cx p g rs repo d src) tr ∧
      (tr = [.postMount repo d.dig src] ∨ tr = [.postMount repo d.dig src, .getBlob src d.dig] ∨
       ∃ s b, cx.len b = d.size ∧
         tr = [.postMount repo d.dig src, .getBlob src d.dig, .putUpload repo s d.dig d.size b]) := by
  unfold mountBlob
  dsimp only
  by_cases h201 : (serve cx p g (.postMount repo d.dig src)).2.status = 201
  · rw [if_pos h201]; split <;> exact ⟨_, ⟨rfl, rfl⟩, .inl rfl⟩
  rw [if_neg h201]
  by_cases h202 : (serve cx p g (.postMount repo d.dig src)).2.status ≠ 202
  · rw [if_pos h202]; exact ⟨_, ⟨rfl, rfl⟩, .inl rfl⟩
  rw [if_neg h202]
  -- the fetch from the source repository is one GET; `hf` puts its trace and registry
  -- in the place of `o.trace` and `o.reg`
  have hf := fetchBlob_sent cx p (serve cx p g (.postMount repo d.dig src)).1 rs src none d
  split
  next b sk s hres _ =>
    refine ⟨_, ⟨rfl, ?_⟩, .inr (.inr ⟨s, b, (fetchBlob_body cx p _ rs src d b sk hres).1, by rw [hf.1]; rfl⟩)⟩
    dsimp only; rw [hf.2, hf.1]; rfl
  · refine ⟨_, ⟨rfl, ?_⟩, .inr (.inl (by rw [hf.1]))⟩
    dsimp only; rw [hf.1]; exact hf.2

end

theorem allowed_tagManifest (cx : Ctx Body Dig) (p : Prof) (g : Reg Body Dig) (rs : RState) (repo : String)
    (d : Desc Dig) (t : String) :
    ∀ q ∈ (tagManifest cx p none g rs repo d t).trace, Allowed cx q = true :=
  allowed_tagManifest_any cx p g rs repo none d t

end
end Oras.Proofs.Remote
