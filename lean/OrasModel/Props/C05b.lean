/-
  C05 under concurrency — whatever the schedule and whatever the commit primitive, only
  content that was read and verified against the descriptor is ever committed
  (`Model/PushRace.lean`).  Property theorems only.
-/
import OrasModel.Proofs.PushRace
namespace Oras.Props.C05
open Oras Oras.PushRace

/-- **Only verified content becomes visible under concurrent pushes**: in every schedule, with
    either commit primitive, a stored key was committed by a pusher whose content matched, and
    a pusher whose content does not match is never accepted. -/
theorem c05_concurrent_only_verified_stored (cm : Commit) (good : Nat → Bool) (sched : List Nat) :
    let s := run cm (init good) sched
    (s.stored = true → ∃ i, (s.ps i).res = some .ok ∧ (s.ps i).good = true) ∧
    (∀ i, (s.ps i).good = false → (s.ps i).res ≠ some .ok) := by
  intro s
  have h := (core_run cm good sched).safe
  constructor
  · intro hs
    obtain ⟨i, hi⟩ := h.storedBy hs
    exact ⟨i, hi, h.okGood i hi⟩
  · intro i hb hok
    have := h.okGood i hok
    rw [hb] at this
    cases this

end Oras.Props.C05
