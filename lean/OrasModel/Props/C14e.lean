/- C14 — "a repository's detected referrers capability never flips". -/
import OrasModel.Model.Capability
import OrasModel.Gen.Facts
namespace Oras.Props.C14
open Oras Oras.Capability

/-- One call never changes a settled capability. -/
theorem c14_capability_step (s : State) (capable : Bool) (h : s ≠ .unknown) : (setCap s capable).1 = s := by
  cases s with
  | unknown => exact absurd rfl h
  | supported | unsupported => rfl

/-- **The capability never flips**: once it is settled, no sequence of later calls - by any
    number of goroutines, in any order - changes it. -/
theorem c14_capability_stable (s : State) (calls : List Bool) (h : s ≠ .unknown) : run s calls = s :=
  List.foldlRecOn (motive := (· = s)) calls _ rfl fun _ e c _ => e ▸ c14_capability_step s c h

/-- The first call settles it, and a later contradicting call is told so. -/
theorem c14_capability_first_wins (c : Bool) (calls : List Bool) :
    run .unknown (c :: calls) = ofBool c ∧ ∀ c', (setCap (ofBool c) c').2 = (c' != c) := by
  constructor
  · show run (ofBool c) calls = ofBool c
    exact c14_capability_stable (ofBool c) calls (by cases c <;> nofun)
  · intro c'
    cases c <;> cases c' <;> rfl

/-- **The source writes the cell in one place only**, by a compare-and-swap from "unknown". -/
theorem c14_capability_source_facts :
    Gen.referrersStateUses =
      ["SetReferrersCapability:atomic.CompareAndSwapInt32:referrersStateUnknown", "loadReferrersState:atomic.LoadInt32"] :=
  rfl

end Oras.Props.C14
