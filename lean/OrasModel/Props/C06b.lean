/-
  C06, continued — the memory store and the file store (`Model/Stores.lean`); the file-store
  invariant and the helper lemmas are in `Proofs/Stores.lean`.
-/
import OrasModel.Proofs.Stores
import OrasModel.Gen.Facts
namespace Oras.Props.C06
open Oras

def absMem (st : MemSt) : Node → Bool := fun n => decide (n ∈ st.content)

/-- **Memory `Push` refines `Abs.push`** on verified content: present content is refused
    with already-exists and nothing changes; absent content becomes present and nothing
    else does.  Content that does not verify is refused and nothing changes. -/
theorem c06_mem_push_refines (c : StoreCfg) (st : MemSt) (n : Node) (good : Bool) :
    (n ∈ st.content → st.push c n good = (st, .error .alreadyExists)) ∧
    (n ∉ st.content → good = false → st.push c n good = (st, .error .verify)) ∧
    (n ∉ st.content → good = true →
      (st.push c n good).2 = .ok () ∧
      (∀ m, absMem (st.push c n good).1 m = (if m = n then true else absMem st m)) ∧
      (st.push c n good).1.refs = st.refs) := by
  unfold MemSt.push
  refine ⟨fun h => by simp [h], fun h g => by simp [h, g], fun h g => ?_⟩
  simp only [h, if_false, g, Bool.not_true, Bool.false_eq_true, absMem, List.mem_cons, true_and, and_true]
  intro m
  by_cases e : m = n <;> simp [e]

/-- **Memory `Fetch`/`Exists`** answer from the content map, and what is fetched is what
    was asked for. -/
theorem c06_mem_fetch (st : MemSt) (n : Node) :
    (st.exists_ n = true → st.fetch n = .ok n) ∧ (st.exists_ n = false → st.fetch n = .error .notFound) := by
  unfold MemSt.exists_ MemSt.fetch
  by_cases h : n ∈ st.content <;> simp [h]

/-- **Memory `Tag`/`Resolve`**: tagging absent content is not-found and changes nothing;
    otherwise the reference resolves to the descriptor just tagged and every other
    reference resolves as before; content is untouched. -/
theorem c06_mem_tag_resolve (st : MemSt) (d : SDesc) (r : Option Nat) :
    (d.node ∉ st.content → st.tag d r = (st, .error .notFound)) ∧
    (d.node ∈ st.content →
      (st.tag d r).2 = .ok () ∧ (st.tag d r).1.resolve r = .ok d ∧
      (∀ r', r' ≠ r → (st.tag d r).1.resolve r' = st.resolve r') ∧
      (st.tag d r).1.content = st.content) := by
  unfold MemSt.tag
  refine ⟨fun h => by simp [h], fun h => ?_⟩
  simp only [h, if_true, true_and, and_true]
  refine ⟨by simp [MemSt.resolve, List.find?], ?_⟩
  intro r' hr'
  unfold MemSt.resolve
  rw [List.find?_cons_of_neg (by simpa using fun e => hr' e.symm),
    find?_filter_of_imp fun e he => by simp only [decide_eq_true_eq] at he; simp [he, hr']]

open FileSt in
/-- **The file-store invariant holds in every reachable state**: it holds initially and
    `Push` (named or not, verified or not, with duplicate restoration) and `Tag` keep it. -/
theorem c06_file_inv_reachable (c : StoreCfg) :
    FileSt.Inv FileSt.empty ∧
    (∀ st d good forceCAS noOverwrite removeOnFail ignoreNoName, FileSt.Inv st →
      FileSt.Inv (push c false st d good forceCAS noOverwrite removeOnFail ignoreNoName).1) ∧
    (∀ st d r, FileSt.Inv st → FileSt.Inv (tag c st d r).1) := by
  refine ⟨inv_empty, fun st d good fc no rf inn => inv_push c st d good fc no rf inn, fun st d r h => ?_⟩
  -- `Tag` changes the references at most, which the invariant does not mention
  unfold tag
  split
  · exact h
  · split
    · exact ⟨h.d2p, h.named⟩
    · exact h

open FileSt in
/-- **No operation ever returns bytes that do not match the descriptor**: whatever `Fetch`
    hands back — through the digest → path map or from the fallback store, for a named or
    a plain descriptor — is the content of the requested digest. -/
theorem c06_file_fetch_sound (c : StoreCfg) (st : FileSt) (d : SDesc) (b : FileBytes)
    (h : FileSt.Inv st) (hf : fetch c st d = .ok b) : b = .ok (c.dig d.node) := by
  unfold fetch at hf
  split at hf
  · split at hf
    · next p hp =>
      -- the path recorded for the digest holds a complete file of that digest
      rw [(h.d2p _ p hp).1] at hf
      cases hf
      rfl
    · split at hf
      · cases hf
        rfl
      · cases hf
  · cases hf

open FileSt in
/-- **A refused or failed `Push` changes nothing observable**: after a push that returned
    an error (duplicate name, already exists, content that does not verify), `Exists` and
    `Fetch` answer every descriptor exactly as before. -/
theorem c06_file_failed_push_is_noop (c : StoreCfg) (st : FileSt) (d : SDesc) (good : Bool) (e : SErr)
    (forceCAS noOverwrite removeOnFail ignoreNoName : Bool)
    (h : FileSt.Inv st) (he : (push c false st d good forceCAS noOverwrite removeOnFail ignoreNoName).2 = .error e) :
    ∀ q, exists_ c (push c false st d good forceCAS noOverwrite removeOnFail ignoreNoName).1 q = exists_ c st q ∧
         fetch c (push c false st d good forceCAS noOverwrite removeOnFail ignoreNoName).1 q = fetch c st q :=
  -- at most the file under an unused name differs, which nothing looks at
  (push_error c st d good forceCAS noOverwrite removeOnFail ignoreNoName e he).observe c h

open FileSt in
/-- **A failed push does not stand in the way of its own retry**, also under
    `DisableOverwrite` — given that the partially written file is removed (the code since the
    repair of F21): after a push to a free name failed verification, the same push with the
    right content is accepted.  Without the removal it is refused (`overwrite`): the
    counterexample that was replayed on the code. -/
theorem c06_file_retry_after_failed_push (c : StoreCfg) (st : FileSt) (n : Node) (nm : Nat)
    (hn : nm ∉ st.names) (hfree : st.fileAt nm = none) (hb : c.isMan n = false) :
    let afterFail := (push c false st ⟨n, some nm⟩ false false true true).1
    (push c false afterFail ⟨n, some nm⟩ true false true true).2 = .ok () ∧
    (push c false (push c false st ⟨n, some nm⟩ false false true false).1 ⟨n, some nm⟩ true false true false).2
      = .error .overwrite := by
  have h1 : (push c false st ⟨n, some nm⟩ false false true true).1 = st.removeFile nm := by
    simp [push, pushNamed, hn, hfree]
  have h2 : (push c false st ⟨n, some nm⟩ false false true false).1 = st.writeFile nm .garbage := by
    simp [push, pushNamed, hn, hfree]
  have hn1 : nm ∉ (st.removeFile nm).names := hn
  have hn2 : nm ∉ (st.writeFile nm .garbage).names := hn
  simp only [h1, h2]
  constructor
  · simp [push, pushNamed, hn1, fileAt_removeFile]
  · simp [push, pushNamed, hn2, fileAt_writeFile]

open FileSt in
/-- **A name is written once**: pushing to a name that exists is refused with
    duplicate-name and the state is unchanged. -/
theorem c06_file_duplicate_name (c : StoreCfg) (re : Bool) (st : FileSt) (n : Node) (nm : Nat) (good : Bool)
    (h : nm ∈ st.names) : push c re st ⟨n, some nm⟩ good = (st, .error .duplicateName) := by
  simp [push, pushNamed, h]

open FileSt in
/-- **Fetch returns the pushed bytes**: after a verified push of a blob under a new name it
    exists and is fetched back under its name and by its plain descriptor. -/
theorem c06_file_fetch_after_push (c : StoreCfg) (st : FileSt) (n : Node) (nm : Nat)
    (hn : nm ∉ st.names) (hb : c.isMan n = false) :
    let st' := (push c false st ⟨n, some nm⟩ true).1
    (push c false st ⟨n, some nm⟩ true).2 = .ok () ∧
    exists_ c st' ⟨n, some nm⟩ = true ∧ exists_ c st' ⟨n, none⟩ = true ∧
    fetch c st' ⟨n, some nm⟩ = .ok (.ok (c.dig n)) ∧ fetch c st' ⟨n, none⟩ = .ok (.ok (c.dig n)) := by
  simp only [push, pushNamed, hn, if_false, Bool.false_eq_true, if_true, hb, false_and, Bool.not_false, Bool.and_true]
  refine ⟨trivial, ?_, ?_, ?_, ?_⟩
  · simp [exists_, pathOf, List.find?]
  · simp [exists_, pathOf, List.find?]
  · simp [fetch, gate, pathOf, fileAt, writeFile, List.find?]
  · simp [fetch, gate, pathOf, fileAt, writeFile, List.find?]

open FileSt in
/-- **`Tag`/`Resolve`** on the file store: the empty reference is rejected, tagging absent
    content is not-found and changes nothing, and a tagged reference resolves to the
    descriptor most recently tagged. -/
theorem c06_file_tag_resolve (c : StoreCfg) (st : FileSt) (d : SDesc) (r : Nat) :
    (tag c st d none = (st, .error .missingRef)) ∧ (resolve st none = .error .missingRef) ∧
    (exists_ c st d = false → tag c st d (some r) = (st, .error .notFound)) ∧
    (exists_ c st d = true → (tag c st d (some r)).2 = .ok () ∧ resolve (tag c st d (some r)).1 (some r) = .ok d) := by
  refine ⟨rfl, rfl, fun h => by simp [tag, h], fun h => ?_⟩
  simp [tag, h, resolve]

/-- **Source facts** (regenerated): `saveFile` records the digest → path entry after the
    verified copy, and `pushFile` removes the file it created when that copy fails — the two
    parameters the file-store model is instantiated with by the driver. -/
theorem c06_source_facts :
    Gen.fileRecordsPathAfterCopy = true ∧ Gen.fileRemovesPartialOnFailure = true := ⟨rfl, rfl⟩

/-- The order of the source matters: recording the digest → path entry *before* the
    verified copy makes a failed push visible — `Exists` turns true for the plain
    descriptor and `Fetch` hands back bytes that do not match it.  (The harness checks on
    every run that the code behaves like `recordEarly = false`.) -/
theorem c06_file_counterexample_record_early :
    let c : StoreCfg := ⟨fun _ => false, fun _ => [], id⟩
    let bad := (FileSt.push c true FileSt.empty ⟨1, some 7⟩ false).1
    let ok := (FileSt.push c false FileSt.empty ⟨1, some 7⟩ false).1
    FileSt.exists_ c bad ⟨1, none⟩ = true ∧ FileSt.fetch c bad ⟨1, none⟩ = .ok .garbage ∧
    FileSt.exists_ c ok ⟨1, none⟩ = false ∧ FileSt.fetch c ok ⟨1, none⟩ = .error .notFound := by
  refine ⟨by rfl, by rfl, by rfl, by rfl⟩

/-- Non-vacuity: two names for the same bytes both materialise when the manifest listing
    them is pushed (duplicate restoration), and both are fetched back. -/
example :
    let c : StoreCfg := ⟨fun n => n == 9, fun n => if n = 9 then [⟨1, some 5⟩, ⟨1, some 6⟩] else [], id⟩
    let s1 := (FileSt.push c false FileSt.empty ⟨1, some 5⟩ true).1
    let s2 := (FileSt.push c false s1 ⟨9, none⟩ true).1
    s2.names = [6, 5] ∧ FileSt.fetch c s2 ⟨1, some 6⟩ = .ok (.ok 1) ∧ FileSt.fetch c s2 ⟨1, some 5⟩ = .ok (.ok 1) ∧
    s2.predecessors 1 = [9] := by
  refine ⟨by rfl, by rfl, by rfl, by rfl⟩

end Oras.Props.C06
