/-
  C13 — A remote Repository is a faithful, spec-conforming view of the registry.
  Property theorems, the two tables the current source is compared against, and a concrete
  registry for the examples.  Models: `Model/Remote.lean`, `Model/Seek.lean`; helper lemmas:
  `Proofs/Remote*.lean`, `Proofs/Seek.lean`.
-/
import OrasModel.Model.Remote
import OrasModel.Model.Seek
import OrasModel.Proofs.RemoteSem
import OrasModel.Proofs.Seek
import OrasModel.Gen.Facts
namespace Oras.Props.C13
open Oras Oras.Remote

section
variable {Body Dig : Type} [DecidableEq Dig]

/-! ### Responses that contradict the request are refused -/

/-- `verifyContentDigest` accepts only an absent header or the expected digest. -/
theorem c13_verifyContentDigest (r : Resp Body Dig) (e : Dig) :
    verifyContentDigest r e = .ok () ↔ (r.dcd = .absent ∨ r.dcd = .valid e) :=
  Proofs.Remote.vcd_ok_iff r e

/-- **A descriptor generated from a manifest response never contradicts the request or
    the response**: it carries the response's media type and length; its digest is the
    requested digest when one was requested, the header's digest when the header is
    present, and otherwise (GET only) the digest of the body actually received. -/
theorem c13_manifest_desc_consistent (cx : Ctx Body Dig) (isHead : Bool) (refDigest : Option Dig)
    (r : Resp Body Dig) (d : Desc Dig) (h : genManifestDesc cx isHead refDigest r = .ok d) :
    r.ctype = some d.mt ∧ r.clen = some d.size ∧
    (∀ q, refDigest = some q → d.dig = q) ∧
    (∀ hd, r.dcd = .valid hd → d.dig = hd) ∧
    r.dcd ≠ .invalid ∧
    (r.dcd = .absent → isHead = true → refDigest = some d.dig) ∧
    (r.dcd = .absent → isHead = false → ∃ b, r.body = some b ∧ d.dig = cx.H b) :=
  Proofs.Remote.genManifestDesc_ok cx isHead refDigest r d h

/-- Same for blobs (`generateBlobDescriptor`): the digest is the requested one, the header
    — when present — agrees with it, the size is the response's length. -/
theorem c13_blob_desc_consistent (r : Resp Body Dig) (q : Dig) (d : Desc Dig)
    (h : genBlobDesc r q = .ok d) :
    d.dig = q ∧ r.clen = some d.size ∧ (r.dcd = .absent ∨ r.dcd = .valid q) :=
  Proofs.Remote.genBlobDesc_ok r q d h

/-- `Fetch` by descriptor hands out a body only if length, digest header and (manifests)
    media type of the response agree with the descriptor. -/
theorem c13_fetch_checks (t : Desc Dig) (r : Resp Body Dig) :
    (blobFetchCheck t r = .ok () →
      (∀ n, r.clen = some n → n = t.size) ∧ (r.dcd = .absent ∨ r.dcd = .valid t.dig)) ∧
    (manFetchCheck t r = .ok () →
      r.ctype = some t.mt ∧ (∀ n, r.clen = some n → n = t.size) ∧ (r.dcd = .absent ∨ r.dcd = .valid t.dig)) :=
  ⟨Proofs.Remote.blobFetchCheck_ok t r, Proofs.Remote.manFetchCheck_ok t r⟩

/-- **Every single-field corruption that contradicts the request makes the call fail**, for
    every registry state, profile and call that reads by descriptor or by digest: `Fetch`,
    `Exists`/`Resolve` by digest, `FetchReference` by digest — on either store. -/
theorem c13_corruption_rejected (cx : Ctx Body Dig) (p : Prof) (g : Reg Body Dig) (rs : RState)
    (repo : String) (t : Desc Dig) (c : Corrupt Dig) :
    (contradicts c (some t.dig) (some t.size) none = true →
      ∃ e, (fetchBlob cx p (some c) g rs repo t).res = .err e) ∧
    (contradicts c (some t.dig) (some t.size) (some t.mt) = true →
      ∃ e, (fetchManifest cx p (some c) g rs repo t).res = .err e) ∧
    (contradicts c (some t.dig) none none = true →
      (∃ e, (resolveBlob cx p (some c) g rs repo t.dig).res = .err e) ∧
      (∃ e, (resolveManifest cx p (some c) g rs repo (.dig t.dig)).res = .err e) ∧
      (∃ e, (fetchRefBlob cx p (some c) g rs repo t.dig).res = .err e) ∧
      (∃ e, (fetchRefManifest cx p (some c) g rs repo (.dig t.dig)).res = .err e)) := by
  -- each call judges a 200 response by one check, which the changed response fails (`hx`);
  -- any other status is an error as it stands
  refine ⟨fun hc => ?_, fun hc => ?_, fun hc => ⟨?_, ?_, ?_, ?_⟩⟩
  · obtain ⟨x, hx⟩ := Proofs.Remote.blobFetchCheck_contra t (serve cx p g (.getBlob repo t.dig)).2 c hc
    unfold fetchBlob
    dsimp only
    rw [hx]
    split <;> exact ⟨_, rfl⟩
  · obtain ⟨x, hx⟩ := Proofs.Remote.manFetchCheck_contra t (serve cx p g (.getMan repo (.dig t.dig))).2 c hc
    unfold fetchManifest
    dsimp only
    rw [hx]
    split <;> exact ⟨_, rfl⟩
  · obtain ⟨x, hx⟩ := Proofs.Remote.genBlobDesc_contra t.dig (serve cx p g (.headBlob repo t.dig)).2 c hc
    unfold resolveBlob
    dsimp only
    rw [hx]
    split <;> exact ⟨_, rfl⟩
  · obtain ⟨x, hx⟩ :=
      Proofs.Remote.genManifestDesc_contra cx true t.dig (serve cx p g (.headMan repo (.dig t.dig))).2 c hc
    unfold resolveManifest
    dsimp only [refDigest?]
    rw [hx]
    split <;> exact ⟨_, rfl⟩
  -- `FetchReference`, alike on both stores: it falls back to a second, untouched exchange when
  -- the length is unknown; a changed digest header leaves the length the registry stated
  · obtain ⟨x, hx⟩ := Proofs.Remote.genBlobDesc_contra t.dig (serve cx p g (.getBlob repo t.dig)).2 c hc
    obtain ⟨d, rfl⟩ := Proofs.Remote.contradicts_dig hc
    unfold fetchRefBlob
    dsimp only
    split
    next h200 =>
      obtain ⟨n, hn⟩ := Proofs.Remote.serve_200_clen cx p g _ h200
      -- no body: an error; a body: the length is known (`hn`), so the descriptor check decides
      split
      · exact ⟨_, rfl⟩
      · simp only [applyCorrupt, hn] at hx ⊢
        rw [hx]; exact ⟨_, rfl⟩
    · exact ⟨_, rfl⟩
  · obtain ⟨x, hx⟩ :=
      Proofs.Remote.genManifestDesc_contra cx false t.dig (serve cx p g (.getMan repo (.dig t.dig))).2 c hc
    obtain ⟨d, rfl⟩ := Proofs.Remote.contradicts_dig hc
    unfold fetchRefManifest
    dsimp only [refDigest?]
    split
    next h200 =>
      obtain ⟨n, hn⟩ := Proofs.Remote.serve_200_clen cx p g _ h200
      split
      · exact ⟨_, rfl⟩
      · simp only [applyCorrupt, hn] at hx ⊢
        rw [hx]; exact ⟨_, rfl⟩
    · exact ⟨_, rfl⟩

/-! ### The Repository as a content store with tags -/

/-- The registry invariant: content is filed under the digest of its bytes.  It holds of
    the empty registry and is kept by every exchange, hence by every call. -/
theorem c13_registry_invariant (cx : Ctx Body Dig) (p : Prof) (tr : List (Req Body Dig)) :
    Proofs.Remote.RegInv cx (Proofs.Remote.replay cx p Reg.empty tr) :=
  Proofs.Remote.regInv_replay cx p tr _ (Proofs.Remote.regInv_empty cx)

/-- **Fetch by descriptor is a map lookup**: for every registry state and profile, a blob
    fetch returns exactly the stored body (seekable iff the registry serves ranges) when the
    digest is stored with the described size, not-found when it is absent, and an error when
    the descriptor's size is not the stored one; it changes nothing. -/
theorem c13_fetch_blob (cx : Ctx Body Dig) (p : Prof) (g : Reg Body Dig) (rs : RState) (repo : String) (t : Desc Dig) :
    (fetchBlob cx p none g rs repo t).reg = g ∧ (fetchBlob cx p none g rs repo t).rs = rs ∧
    (fetchBlob cx p none g rs repo t).res =
      (match alookup (g.repos repo).blobs t.dig with
       | none => .err .notFound
       | some b => if cx.len b ≠ t.size then .err .lengthMismatch else .body b p.rg) := by
  rw [Proofs.Remote.fetchBlob_eq]; exact ⟨rfl, rfl, rfl⟩

/-- Same for manifests, where the stored media type must be the described one as well. -/
theorem c13_fetch_manifest (cx : Ctx Body Dig) (p : Prof) (g : Reg Body Dig) (rs : RState) (repo : String) (t : Desc Dig) :
    (fetchManifest cx p none g rs repo t).reg = g ∧ (fetchManifest cx p none g rs repo t).rs = rs ∧
    (fetchManifest cx p none g rs repo t).res =
      (match alookup (g.repos repo).mans t.dig with
       | none => .err .notFound
       | some (mt, b) =>
         if mt ≠ t.mt then .err .mediaTypeMismatch
         else if cx.len b ≠ t.size then .err .lengthMismatch else .body b false) := by
  rw [Proofs.Remote.fetchManifest_eq]; exact ⟨rfl, rfl, rfl⟩

/-- **What was pushed is fetched back**: a blob push succeeds exactly when the content
    matches the descriptor, and then a fetch of that descriptor returns that very body. -/
theorem c13_push_fetch_blob (cx : Ctx Body Dig) (p : Prof) (g : Reg Body Dig) (rs rs' : RState) (repo : String)
    (d : Desc Dig) (b : Body) :
    ((pushBlob cx p g rs repo d b).res = .ok ↔ (cx.H b = d.dig ∧ cx.len b = d.size)) ∧
    ((pushBlob cx p g rs repo d b).res = .ok →
      (fetchBlob cx p none (pushBlob cx p g rs repo d b).reg rs' repo d).res = .body b p.rg) := by
  have hok : (pushBlob cx p g rs repo d b).res = .ok ↔ (cx.H b = d.dig ∧ cx.len b = d.size) := by
    rw [Proofs.Remote.pushBlob_res]
    by_cases hl : cx.len b = d.size <;> by_cases hH : cx.H b = d.dig <;> simp [hl, hH]
  refine ⟨hok, fun h => ?_⟩
  obtain ⟨hH, hl⟩ := hok.1 h
  rw [Proofs.Remote.fetchBlob_eq, Proofs.Remote.pushBlob_stored cx p g rs repo d b hl hH]
  simp [hl]

/-- Manifests: after a successful `Push` (reference = the digest) a `Fetch` of the same
    descriptor returns the pushed body; after a successful `PushReference` of matching
    content, `FetchReference` of the tag returns the descriptor and the body. -/
theorem c13_push_fetch_manifest (cx : Ctx Body Dig) (p : Prof) (g : Reg Body Dig) (rs rs' : RState) (repo : String)
    (d : Desc Dig) (b : Body) :
    ((pushManifest cx p g rs repo d b (.dig d.dig)).res = .ok →
      (fetchManifest cx p none (pushManifest cx p g rs repo d b (.dig d.dig)).reg rs' repo d).res = .body b false) ∧
    (∀ t, cx.H b = d.dig → Proofs.Remote.RegInv cx g → (pushManifest cx p g rs repo d b (.tag t)).res = .ok →
      (fetchRefManifest cx p none (pushManifest cx p g rs repo d b (.tag t)).reg rs' repo (.tag t)).res
        = .descBody d b false) := by
  constructor
  · intro h
    obtain ⟨hs, _, hH, hl⟩ := Proofs.Remote.pushManifest_ok cx p g rs repo d b _ h
    rw [hH rfl] at hs
    rw [Proofs.Remote.fetchManifest_eq, hs]
    simp [hl]
  · intro t hH hinv h
    obtain ⟨hs, ht, _, hl⟩ := Proofs.Remote.pushManifest_ok cx p g rs repo d b _ h
    have hinv' : Proofs.Remote.RegInv cx (pushManifest cx p g rs repo d b (.tag t)).reg := by
      rw [Proofs.Remote.pushManifest_faithful cx p g rs repo d b (.tag t)]
      exact Proofs.Remote.regInv_replay cx p _ g hinv
    rw [Proofs.Remote.fetchRefManifest_eq cx p _ rs' repo (.tag t) hinv',
      (Proofs.Remote.manAt_eq_some (ref := .tag t)).2 ⟨ht t rfl, hs⟩, hH]
    dsimp only
    rw [hl]

/-- **Exists and Resolve reflect the registry's state.**  `Exists` is `true` exactly for
    stored digests; `Resolve` of a digest, or of a tag when the registry sends digest
    headers, returns the stored descriptor, and not-found for an absent reference. -/
theorem c13_exists_resolve (cx : Ctx Body Dig) (p : Prof) (g : Reg Body Dig) (rs : RState) (repo : String)
    (d : Dig) (ref : Ref Dig) :
    (existsOf (resolveBlob cx p none g rs repo d)).res = .bool (alookup (g.repos repo).blobs d).isSome ∧
    (existsOf (resolveManifest cx p none g rs repo (.dig d))).res = .bool (alookup (g.repos repo).mans d).isSome ∧
    (resolveManifest cx p none g rs repo ref).res =
      (match Proofs.Remote.manAt g repo ref with
       | none => .err .notFound
       | some (d, mt, b) =>
         match ref with
         | .dig _ => .desc ⟨mt, d, cx.len b⟩
         | .tag _ => if p.dh then .desc ⟨mt, d, cx.len b⟩ else .err .missingDigestHeader) := by
  rw [Proofs.Remote.resolveBlob_eq, Proofs.Remote.resolveManifest_eq, Proofs.Remote.resolveManifest_eq,
    Proofs.Remote.manAt_dig]
  refine ⟨?_, ?_, rfl⟩
  · cases alookup (g.repos repo).blobs d <;> rfl
  · cases alookup (g.repos repo).mans d <;> rfl

/-- Finding F15, stated about the model: against a registry that omits
    `Docker-Content-Digest`, `Resolve` of an existing tag fails although the registry holds
    the manifest (`FetchReference` of the same tag succeeds, `c13_fetchref`). -/
theorem c13_resolve_tag_needs_digest_header (cx : Ctx Body Dig) (p : Prof) (g : Reg Body Dig) (rs : RState)
    (repo t : String) (hdh : p.dh = false) (v : Dig × String × Body)
    (h : Proofs.Remote.manAt g repo (.tag t) = some v) :
    (resolveManifest cx p none g rs repo (.tag t)).res = .err .missingDigestHeader := by
  rw [Proofs.Remote.resolveManifest_eq, h]
  simp [hdh]

/-- `FetchReference` returns descriptor and body of what the registry holds, with or
    without digest headers. -/
theorem c13_fetchref (cx : Ctx Body Dig) (p : Prof) (g : Reg Body Dig) (rs : RState) (repo : String)
    (ref : Ref Dig) (d : Dig) (hinv : Proofs.Remote.RegInv cx g) :
    (fetchRefManifest cx p none g rs repo ref).res =
      (match Proofs.Remote.manAt g repo ref with
       | none => .err .notFound
       | some (d, mt, b) => .descBody ⟨mt, d, cx.len b⟩ b false) ∧
    (fetchRefBlob cx p none g rs repo d).res =
      (match alookup (g.repos repo).blobs d with
       | none => .err .notFound
       | some b => .descBody ⟨octet, d, cx.len b⟩ b p.rg) := by
  rw [Proofs.Remote.fetchRefManifest_eq cx p g rs repo ref hinv, Proofs.Remote.fetchRefBlob_eq]
  exact ⟨rfl, rfl⟩

/-- `Delete` removes exactly the named entry; an absent one is not-found and nothing changes. -/
theorem c13_delete (cx : Ctx Body Dig) (p : Prof) (g : Reg Body Dig) (rs : RState) (repo : String) (t : Desc Dig) :
    (match alookup (g.repos repo).blobs t.dig with
     | none => (deleteRaw cx p none g rs repo t false).res = .err .notFound ∧
               (deleteRaw cx p none g rs repo t false).reg = g
     | some _ => (deleteRaw cx p none g rs repo t false).res = .ok ∧
               alookup ((deleteRaw cx p none g rs repo t false).reg.repos repo).blobs t.dig = none) ∧
    (match alookup (g.repos repo).mans t.dig with
     | none => (deleteRaw cx p none g rs repo t true).res = .err .notFound ∧
               (deleteRaw cx p none g rs repo t true).reg = g
     | some _ => (deleteRaw cx p none g rs repo t true).res = .ok ∧
               alookup ((deleteRaw cx p none g rs repo t true).reg.repos repo).mans t.dig = none) := by
  constructor
  · cases h : alookup (g.repos repo).blobs t.dig with
    | none => simp [deleteRaw, serve, applyCorrupt, h, statusErr]
    | some b => simp [deleteRaw, serve, applyCorrupt, h, verifyContentDigest, Proofs.Remote.alookup_adel]
  · cases h : alookup (g.repos repo).mans t.dig with
    | none => simp [deleteRaw, serve, applyCorrupt, h, statusErr]
    | some b => simp [deleteRaw, serve, applyCorrupt, h, verifyContentDigest, Proofs.Remote.alookup_adel]

/-- `Mount`: whether the registry mounts or the client falls back to pull-and-push, the
    source repository's blob ends up in the target; an absent source is not-found. -/
theorem c13_mount (cx : Ctx Body Dig) (p : Prof) (g : Reg Body Dig) (rs : RState) (repo src : String)
    (d : Desc Dig) (hinv : Proofs.Remote.RegInv cx g) (hne : src ≠ repo) :
    (∀ b, alookup (g.repos src).blobs d.dig = some b → cx.len b = d.size →
        (mountBlob cx p g rs repo d src).res = .ok ∧
        alookup ((mountBlob cx p g rs repo d src).reg.repos repo).blobs d.dig = some b) ∧
    (alookup (g.repos src).blobs d.dig = none →
        (mountBlob cx p g rs repo d src).res = .err .notFound ∧
        ((mountBlob cx p g rs repo d src).reg.repos repo).blobs = (g.repos repo).blobs) := by
  constructor
  · intro b h hl
    have hH : cx.H b = d.dig := (hinv src).1 _ _ h
    cases hm : p.mt
    -- no mount support: the registry opens a session, the client GETs from `src` (which the POST
    -- left alone, as `src ≠ repo`) and PUTs; with it: the registry mounts and answers 201
    · simp [mountBlob, serve, hm, h, Proofs.Remote.fetchBlob_eq, Proofs.Remote.set_repos_other _ _ _ _ hne, hl,
        hH, Proofs.Remote.alookup_aset]
    · simp [mountBlob, serve, hm, h, Proofs.Remote.vcd_served _ false, Proofs.Remote.alookup_aset]
  · intro h
    cases hm : p.mt <;>
      simp [mountBlob, serve, hm, h, Proofs.Remote.fetchBlob_eq, Proofs.Remote.set_repos_other _ _ _ _ hne]

/-- **Every request is one the specification allows** (at the model's level: a body is
    always sent with the length it declares), for pushes, tagging and mounting. -/
theorem c13_requests_allowed (cx : Ctx Body Dig) (p : Prof) (g : Reg Body Dig) (rs : RState) (repo src t : String)
    (d : Desc Dig) (b : Body) (ref : Ref Dig) :
    (∀ q ∈ (pushBlob cx p g rs repo d b).trace, Allowed cx q = true) ∧
    (∀ q ∈ (pushManifest cx p g rs repo d b ref).trace, Allowed cx q = true) ∧
    (∀ q ∈ (tagManifest cx p none g rs repo d t).trace, Allowed cx q = true) ∧
    (∀ q ∈ (mountBlob cx p g rs repo d src).trace, Allowed cx q = true) := by
  -- by what each call sends: a request without a body is allowed as it stands, one with a
  -- body when it declares that body's length, which is the condition it is sent under
  refine ⟨?_, ?_, Proofs.Remote.allowed_tagManifest cx p g rs repo d t, ?_⟩
  · refine (Proofs.Remote.pushBlob_sent cx p g rs repo d b).allowed ?_
    split
    · exact List.forall_mem_singleton.2 rfl
    next hl =>
      exact List.forall_mem_cons.2
        ⟨rfl, List.forall_mem_singleton.2 (decide_eq_true (Decidable.of_not_not hl).symm)⟩
  · rcases Proofs.Remote.pushManifest_sent cx p g rs repo d b ref with h | ⟨hl, h⟩
    · exact h.allowed fun _ h => nomatch h
    · exact h.allowed (List.forall_mem_singleton.2 (decide_eq_true hl.symm))
  · obtain ⟨tr, h, htr⟩ := Proofs.Remote.mountBlob_sent cx p g rs repo d src
    refine h.allowed ?_
    rcases htr with rfl | rfl | ⟨s, b, hl, rfl⟩
    · exact List.forall_mem_singleton.2 rfl
    · exact List.forall_mem_cons.2 ⟨rfl, List.forall_mem_singleton.2 rfl⟩
    · exact List.forall_mem_cons.2 ⟨rfl, List.forall_mem_cons.2 ⟨rfl,
        List.forall_mem_singleton.2 (decide_eq_true hl.symm)⟩⟩

/-- Routing is by media type alone, so a descriptor is pushed to and fetched from the same
    end-point (`Repository.blobStore`). -/
theorem c13_routing (cx : Ctx Body Dig) (mts : List String) (p : Prof) (g : Reg Body Dig) (rs : RState)
    (repo : String) (d : Desc Dig) (b : Body) :
    (isManifest mts d.mt = true →
      repoPush cx mts p g rs repo d b = pushManifest cx p g rs repo d b (.dig d.dig) ∧
      repoFetch cx mts p none g rs repo d = fetchManifest cx p none g rs repo d) ∧
    (isManifest mts d.mt = false →
      repoPush cx mts p g rs repo d b = pushBlob cx p g rs repo d b ∧
      repoFetch cx mts p none g rs repo d = fetchBlob cx p none g rs repo d) := by
  constructor <;> intro h <;> simp [repoPush, repoFetch, h]

end

/-! ### Seek on blob readers -/

/-- **Read/Seek on a returned blob behave as on the bytes themselves**: for every content
    and every sequence of Read, Seek (any offset, any whence, valid or not) and Close, the
    range-based reader over a conforming registry answers exactly like a cursor over the
    content. -/
theorem c13_seek_refines {β : Type} (content : List β) (ops : List Seek.Op) :
    Seek.run (Seek.step (Seek.goodSrv content)) (Seek.open_ content) ops =
    Seek.run (Seek.specStep content) ⟨0, false⟩ ops :=
  -- the freshly opened reader is the one at the cursor's start
  Proofs.Seek.run_rsc content ops ⟨0, false⟩

/-- A failed range request leaves the reader where it was (the error is returned). -/
theorem c13_seek_failed_request {β : Type} (s : Seek.Rsc β) (offset : Int) (whence : Nat) :
    (Seek.step (fun _ => none) s (.seek offset whence)).1 = s ∨
    ∃ o, (Seek.step (fun _ => none) s (.seek offset whence)).1 = { s with off := o, rest := [] } ∧ o ≥ s.size := by
  -- the reader changes in one branch only, the seek beyond the end, which asks the server nothing
  simp only [Seek.step]
  by_cases hc : s.closed = true
  · rw [if_pos hc]; exact .inl rfl
  rw [if_neg hc]
  cases Seek.seekTarget offset whence s.off s.size with
  | none => exact .inl rfl
  | some t =>
    dsimp only
    by_cases hneg : t < 0
    · rw [if_pos hneg]; exact .inl rfl
    rw [if_neg hneg]
    by_cases hsame : t.toNat = s.off
    · rw [if_pos hsame]; exact .inl rfl
    rw [if_neg hsame]
    by_cases hbig : t.toNat ≥ s.size
    · rw [if_pos hbig]; exact .inr ⟨_, rfl, hbig⟩
    · rw [if_neg hbig]; exact .inl rfl

/-! ### The model follows the current source -/

/-- Regenerated from `registry/remote/manifest.go` and `repository.go` on every run. -/
theorem c13_current_source :
    Gen.remoteDefaultManifestTypes =
      ["application/vnd.docker.distribution.manifest.v2+json",
       "application/vnd.docker.distribution.manifest.list.v2+json",
       "application/vnd.oci.image.manifest.v1+json",
       "application/vnd.oci.image.index.v1+json",
       "application/vnd.oci.artifact.manifest.v1+json"] ∧
    (∀ mt, mt ∈ Gen.remotePushIndexedTypes ↔ ociIndexed mt = true) ∧
    (∀ mt, mt ∈ Gen.remoteDeleteIndexedTypes ↔ ociIndexed mt = true) :=
  -- both generated lists are, literally, the three types `ociIndexed` tests for
  ⟨rfl, Proofs.Remote.ociIndexed_iff, Proofs.Remote.ociIndexed_iff⟩

/-- The response-judging functions of `repository.go`, as the model was written against
    them: every `if` condition, `case` and check call, in source order.  A change to any of
    them stops this theorem from checking until the model is reviewed. -/
def expectedChecks : List (String × List String) :=
  [("blobStore.Fetch", ["if err != nil", "if err != nil", "if err != nil", "case http.StatusOK", "if size != -1 && size != target.Size", "if err != nil", "call verifyContentDigest", "if rangeUnit == \"bytes\"", "call httputil.NewReadSeekCloser", "case http.StatusNotFound"]),
   ("manifestStore.Fetch", ["if err != nil", "if err != nil", "if err != nil", "case http.StatusOK", "case http.StatusNotFound", "if err != nil", "if mediaType != target.MediaType", "if size != -1 && size != target.Size", "if err != nil", "call verifyContentDigest"]),
   ("generateBlobDescriptor", ["if mediaType == \"\"", "if size == -1", "if err != nil", "call verifyContentDigest"]),
   ("manifestStore.generateDescriptor", ["if err != nil", "if resp.ContentLength == -1", "if err == nil", "if serverHeaderDigestStr != \"\"", "if err != nil", "if len(serverHeaderDigest) == 0", "if httpMethod == http.MethodHead", "if len(refDigest) == 0", "if err != nil", "call calculateDigestFromResponse", "if len(refDigest) > 0 && refDigest != contentDigest"]),
   ("verifyContentDigest", ["if len(digestStr) == 0", "if err != nil", "if contentDigest != expected"]),
   ("Repository.delete", ["if isManifest", "if err != nil", "if err != nil", "case http.StatusAccepted", "call verifyContentDigest", "case http.StatusNotFound"]),
   ("blobStore.Mount", ["if err != nil", "if err != nil", "if resp.StatusCode == http.StatusCreated", "call verifyContentDigest", "if resp.StatusCode != http.StatusAccepted", "if getContent != nil", "call s.sibling(fromRepo).Fetch", "if err != nil", "call s.completePushAfterInitialPost"]),
   ("manifestStore.push", ["if ok", "if err != nil", "if req.GetBody != nil && req.ContentLength != expected.Size", "if ok && req.GetBody == nil", "if err != nil", "call store.Fetch", "if err != nil", "if err != nil", "if resp.StatusCode != http.StatusCreated", "call verifyContentDigest"]),
   ("blobStore.completePushAfterInitialPost", ["if err != nil", "if reqPort == \"443\" && locationHostname == reqHostname && locationPort == \"\"", "if err != nil", "if req.GetBody != nil && req.ContentLength != expected.Size", "if expected.Size == 0 && req.Body != nil && req.Body != http.NoBody", "if n > 0", "if auth != \"\"", "if err != nil", "if resp.StatusCode != http.StatusCreated"]),
   ("blobStore.FetchReference", ["if err != nil", "if err != nil", "if err != nil", "if err != nil", "if err != nil", "case http.StatusOK", "if resp.ContentLength == -1", "call s.Resolve", "call generateBlobDescriptor", "if err != nil", "if rangeUnit == \"bytes\"", "call httputil.NewReadSeekCloser", "case http.StatusNotFound"]),
   ("manifestStore.FetchReference", ["if err != nil", "if err != nil", "if err != nil", "if err != nil", "case http.StatusOK", "if resp.ContentLength == -1", "call s.Resolve", "call s.generateDescriptor", "if err != nil", "case http.StatusNotFound"])]

def expectedSeekSteps : List String :=
  ["if rsc.closed", "case io.SeekCurrent", "offset += rsc.offset", "case io.SeekStart", "case io.SeekEnd", "offset += rsc.size", "if offset < 0", "if offset == rsc.offset", "if offset >= rsc.size", "rsc.rc = http.NoBody", "rsc.offset = offset", "if err != nil", "if resp.StatusCode != http.StatusPartialContent", "rsc.rc = resp.Body", "rsc.offset = offset"]

theorem c13_checks_current : Gen.remoteChecks = expectedChecks ∧ Gen.seekSteps = expectedSeekSteps := by
  constructor <;> rfl

/-! ### Non-vacuity -/

/-- A concrete registry: content ids are their own digests; one manifest tagged `t1`. -/
def exCx : Ctx Nat Nat := { H := id, len := fun _ => 3, subj := fun _ => none }
def exReg (p : Prof) : Reg Nat Nat :=
  (pushManifest exCx p Reg.empty .unknown "a/b" ⟨"application/vnd.oci.image.manifest.v1+json", 7, 3⟩ 7 (.tag "t1")).reg

/-- By the type's place among the three: evaluating `ociIndexed` instead compares the strings
    character by character, which is most of the work of evaluating a push.  (Stated as
    `pushManifest` asks it, of the descriptor's field, and used by `rw`, whose proof term the
    kernel does not evaluate.) -/
theorem ex_indexed :
    ociIndexed (⟨"application/vnd.oci.image.manifest.v1+json", 7, 3⟩ : Desc Nat).mt = true :=
  (Proofs.Remote.ociIndexed_iff _).1 (.tail _ (.head _))

example : (pushManifest exCx ⟨false, false, false, false⟩ Reg.empty .unknown "a/b"
    ⟨"application/vnd.oci.image.manifest.v1+json", 7, 3⟩ 7 (.tag "t1")).res = .ok := by
  rw [pushManifest, ex_indexed]; rfl
example : Proofs.Remote.manAt (exReg ⟨false, false, false, false⟩) "a/b" (.tag "t1") =
    some (7, "application/vnd.oci.image.manifest.v1+json", 7) := by
  rw [exReg, pushManifest, ex_indexed]; rfl
example : (resolveManifest exCx ⟨false, false, false, false⟩ none (exReg ⟨false, false, false, false⟩) .unknown "a/b" (.tag "t1")).res
    = .err .missingDigestHeader := by
  rw [exReg, pushManifest, ex_indexed]; rfl
example : (resolveManifest exCx ⟨false, true, false, false⟩ none (exReg ⟨false, true, false, false⟩) .unknown "a/b" (.tag "t1")).res
    = .desc ⟨"application/vnd.oci.image.manifest.v1+json", 7, 3⟩ := by
  rw [exReg, pushManifest, ex_indexed]; rfl
example : contradicts (.dcd (.valid 9) : Corrupt Nat) (some 7) (some 3) none = true := by decide

end Oras.Props.C13
