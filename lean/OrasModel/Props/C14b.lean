/-
  C14, continued — `syncutil.Merge` (`Model/Merge.lean`): the batching that makes concurrent
  referrers-index updates lose nothing.  Property theorems only; the two invariants are proved
  in `Proofs/Merge.lean` for any number of callers and every interleaving.
-/
import OrasModel.Proofs.Merge
namespace Oras.Props.C14
open Oras

/-- **At most one caller is between `prepare` and `complete`** (so the index of one subject
    is read, rewritten and pushed by one goroutine at a time), and while it is, the main
    token is not available to anybody else. -/
theorem c14_merge_exclusive (s : MergeSt) (h : MergeReach s) :
    (∀ j k, (s.pc j).active = true → (s.pc k).active = true → j = k) ∧
    (∀ j, (s.pc j).active = true → s.token = false ∧ j ∈ s.items) :=
  ⟨h.sched.oneActive, h.sched.activeCur⟩

/-- **Every caller receives its batch's result**: what `Do` returned to a caller is the
    outcome recorded for the batch it was merged into, so two callers of one batch always
    get the same answer — in particular an error of `resolve` (index push or delete failed)
    reaches every caller whose change was in that batch, never `nil`. -/
theorem c14_merge_result (s : MergeSt) (h : MergeReach s) :
    (∀ j b ok, s.pc j = .done b ok → (b, ok) ∈ s.outcome) ∧
    (∀ j k b ok ok', s.pc j = .done b ok → s.pc k = .done b ok' → ok = ok') := by
  have inv := h.hist
  refine ⟨inv.doneOutcome, ?_⟩
  intro j k b ok ok' hj hk
  exact inv.outcome.unique b ok ok' (inv.doneOutcome j b ok hj) (inv.doneOutcome k b ok' hk)

/-- **Every item is passed to `resolve` at most once, with its whole batch**: a batch is
    resolved at most once, batches are resolved one after the other (only finished batches
    are in the history), and if a caller's batch was resolved its item was among the items. -/
theorem c14_merge_resolved_once (s : MergeSt) (h : MergeReach s) :
    (∀ b its its', (b, its) ∈ s.resolved → (b, its') ∈ s.resolved → its = its') ∧
    (∀ b its, (b, its) ∈ s.resolved → b < s.cur) ∧
    (∀ j b ok its, s.pc j = .done b ok → (b, its) ∈ s.resolved → j ∈ its) :=
  ⟨h.hist.resolved.unique, h.hist.resolved.old, h.hist.doneInResolved⟩

/-- Non-vacuity: callers 0 and 1 are merged into batch 0 (1 arrives while 0 prepares),
    caller 2 arrives after the commit and lands in batch 1; batch 0's `resolve` fails and
    both 0 and 1 are told so. -/
example : ∃ s : MergeSt, MergeReach s ∧ s.pc 0 = .done 0 false ∧ s.pc 1 = .done 0 false ∧
    s.pc 2 = .waiting 1 ∧ s.resolved = [(0, [0, 1])] :=
  ⟨_, .step (.step (.step (.step (.step (.step .init
    (.assignOpen _ 0 rfl rfl))
    (.takeMain _ 0 rfl rfl))
    (.assignOpen _ 1 rfl rfl))
    (.prepareOk _ 0 rfl))
    (.assignPending _ 2 rfl rfl))
    (.resolveDone _ 0 false rfl), rfl, rfl, rfl, rfl⟩

end Oras.Props.C14
