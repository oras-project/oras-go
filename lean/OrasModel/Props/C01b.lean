/-
  C01 — `removeForeignLayers` (`copy.go`) drops exactly the foreign layers and keeps every
  other successor, in order, however they are interleaved (`Model/Compact.lean`).
-/
import OrasModel.Proofs.Compact
import OrasModel.Gen.Facts
namespace Oras.Props.C01
open Oras Oras.Compact

/-- **Every ordinary successor survives, once, in order**: the in-place compaction returns the
    list filtered by "is not a foreign layer", for every list. -/
theorem c01_remove_foreign_is_filter {α : Type} (isForeign : α → Bool) (descs : List α) :
    compact (fun d => !isForeign d) atCursor descs = descs.filter (fun d => !isForeign d) :=
  compact_eq_filter _ descs

/-- ... hence nothing that is not foreign is lost and nothing foreign is kept. -/
theorem c01_remove_foreign_mem {α : Type} (isForeign : α → Bool) (descs : List α) (d : α) :
    d ∈ compact (fun d => !isForeign d) atCursor descs ↔ d ∈ descs ∧ isForeign d = false := by
  rw [c01_remove_foreign_is_filter]
  simp [List.mem_filter]

/-- The seeded change C01/m9 (write at `i - 1`): two foreign layers ahead of an ordinary one
    lose it. -/
theorem c01_counterexample_write_at_prev :
    compact (fun d : Nat => d % 2 == 0) atPrev [1, 2, 3, 4] ≠ [2, 4] ∧
    compact (fun d : Nat => d % 2 == 0) atCursor [1, 2, 3, 4] = [2, 4] := by
  decide

/-- The loop in the source writes at the cursor. -/
theorem c01_compact_source_facts :
    Gen.compactLoops = [("removeForeignLayers", ["descs[j] = desc", "j++", "descs[:j]"]),
                        ("filterReferrers", ["refs[j] = ref", "j++", "refs[:j]"])] :=
  rfl

end Oras.Props.C01
