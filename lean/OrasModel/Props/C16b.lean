/-
  C16, continued — the single-flight around token fetches (`syncutil.Once`, used per
  (host, scheme, scopes) by `concurrentCache.Set`).  The invariant is proved in
  `Proofs/Once.lean` for any number of callers and every interleaving.
-/
import OrasModel.Proofs.Once
namespace Oras.Props.C16
open Oras

/-- **At most one fetch is in flight per key**: in every reachable state at most one caller
    is inside the fetch function, and while one is, nobody else can start. -/
theorem c16_once_single_flight {R : Type} (s : OnceSt R) (h : OnceReach s) :
    (∀ i j, s.pc i = .running → s.pc j = .running → i = j) ∧
    (∀ i, s.pc i = .running → s.token = false ∧ s.closed = false) :=
  ⟨(onceInv_reach s h).oneRunner, (onceInv_reach s h).runnerExcl⟩

/-- **Requests that waited on the same fetch share its result**: whoever returns a result
    returns the one stored outcome — two callers can never report different results — and
    at most one caller is told it ran the fetch itself. -/
theorem c16_once_shared_result {R : Type} (s : OnceSt R) (h : OnceReach s) :
    (∀ i j fi fj ri rj, s.pc i = .done fi (some ri) → s.pc j = .done fj (some rj) → ri = rj) ∧
    (∀ i j r r', s.pc i = .done true r → s.pc j = .done true r' → i = j) := by
  have inv := onceInv_reach s h
  refine ⟨?_, inv.oneFirst⟩
  intro i j fi fj ri rj hi hj
  have h1 := (inv.shared i fi ri hi).2
  have h2 := (inv.shared j fj rj hj).2
  rw [h1] at h2
  exact Option.some.inj h2

/-- **A cancelled fetcher hands over**: the token is never lost — in every reachable state
    either it is available, or somebody is fetching, or the outcome is stored — so a waiting
    caller can always make progress (take the token or read the outcome) once the current
    fetch ends; and a stored outcome is never overwritten by a second fetch. -/
theorem c16_once_handover {R : Type} (s : OnceSt R) (h : OnceReach s) :
    (s.token = true ∨ s.closed = true ∨ ∃ i, s.pc i = .running) ∧
    (s.closed = true → s.token = false ∧ (∀ i, s.pc i ≠ .running) ∧ s.result.isSome) :=
  ⟨(onceInv_reach s h).noLoss, (onceInv_reach s h).closedExcl⟩

/-- Non-vacuity: caller 0 takes the token and is cancelled, caller 1 takes over and stores
    7, caller 2 reads it. -/
example : ∃ s : OnceSt Nat, OnceReach s ∧ s.pc 0 = .done false none ∧ s.pc 1 = .done true (some 7) ∧
    s.pc 2 = .done false (some 7) :=
  ⟨_, .step (.step (.step (.step (.step .init
    (.take _ 0 rfl rfl rfl))
    (.handOver _ 0 rfl))
    (.take _ 1 rfl rfl rfl))
    (.finish _ 1 7 rfl))
    (.observe _ 2 rfl rfl), rfl, rfl, rfl⟩

end Oras.Props.C16
