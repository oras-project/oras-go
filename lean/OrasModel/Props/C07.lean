/-
  C07 — Predecessors is exact for every push order, after deletes, GC and reopen.
  Model: `Model/GraphMem.lean` (`internal/graph/memory.go`); helper lemmas: `Proofs/GraphMem.lean`.
-/
import OrasModel.Proofs.GraphMem
import OrasModel.Gen.Facts
namespace Oras.Props.C07
open Oras Oras.GMem

/-- Full-strength statement for the graph index: after *any* history of `index` /
    `Remove` calls (any push order, any deletes), for *every* queried key `k` (stored or
    not) the answer of `Predecessors k` is, as a duplicate-free list, exactly the stored
    nodes whose content links to `k`. -/
def C07_statement : Prop :=
  ∀ (succ : Key → List Key) (ops : List GOp) (k : Key),
    (∀ p, p ∈ (GMem.run succ ops).predecessors k ↔ (storedSpec ops p = true ∧ k ∈ succ p)) ∧
    ((GMem.run succ ops).predecessors k).Nodup

/-- No omissions, no extras: membership is exact. -/
theorem c07_exact (succ : Key → List Key) (ops : List GOp) (k p : Key) :
    p ∈ (GMem.run succ ops).predecessors k ↔ (storedSpec ops p = true ∧ k ∈ succ p) :=
  nodes_run succ ops p ▸ (inv_run succ ops).preds_exact k p

theorem c07_nodup (succ : Key → List Key) (ops : List GOp) (k : Key) :
    ((GMem.run succ ops).predecessors k).Nodup :=
  (inv_run succ ops).preds_nodup k

theorem c07_statement_holds : C07_statement :=
  fun succ ops k => ⟨fun p => c07_exact succ ops k p, c07_nodup succ ops k⟩

/-- Order independence: two histories that leave the same set of nodes stored (e.g. two
    permutations of the same pushes, or concurrent pushes serialised by the lock in
    either order) give the same predecessor sets for every node. -/
theorem c07_order_independent (succ : Key → List Key) (ops₁ ops₂ : List GOp)
    (hs : ∀ p, storedSpec ops₁ p = storedSpec ops₂ p) (k p : Key) :
    p ∈ (GMem.run succ ops₁).predecessors k ↔ p ∈ (GMem.run succ ops₂).predecessors k := by
  rw [c07_exact, c07_exact, hs]

/-- `Remove` reports as dangling exactly the stored successors that lost their last
    stored predecessor. -/
theorem c07_danglings (succ : Key → List Key) (ops : List GOp) (n s : Key)
    (hn : storedSpec ops n = true) :
    s ∈ ((GMem.run succ ops).remove n).2 ↔
      (s ∈ succ n ∧ storedSpec ops s = true ∧
        ∀ p, p ≠ n → ¬ (storedSpec ops p = true ∧ s ∈ succ p)) := by
  simp only [← nodes_run succ] at hn ⊢
  exact (inv_run succ ops).mem_danglings hn s

/-- Removing a freshly indexed node restores every predecessor set. -/
theorem c07_remove_undoes_index (succ : Key → List Key) (ops : List GOp) (n k p : Key)
    (hnew : storedSpec ops n = false) :
    p ∈ (GMem.run succ (ops ++ [.index n, .remove n])).predecessors k ↔
      p ∈ (GMem.run succ ops).predecessors k := by
  refine c07_order_independent succ _ _ (fun q => ?_) k p
  unfold storedSpec at hnew ⊢
  rw [List.foldl_append]
  simp only [List.foldl_cons, List.foldl_nil]
  by_cases e : q = n
  · subst e; simp only [if_true]; exact hnew.symm
  · simp only [e, if_false]

/-- Non-vacuity: a concrete history (children first, parent, delete, re-push) on a graph
    with a shared blob and a node listed twice. -/
example :
    let succ : Key → List Key := fun n => if n = 10 then [1, 2, 2] else if n = 11 then [2, 10] else []
    let ops := [GOp.index 2, .index 11, .index 10, .index 1, .remove 11, .index 11]
    sortNat ((GMem.run succ ops).predecessors 2) = [10, 11] ∧
    (GMem.run succ ops).predecessors 10 = [11] ∧
    (GMem.run succ ops).predecessors 99 = [] := by
  decide

end Oras.Props.C07

/-! ### Obligations on facts regenerated from `/repo` (tie 1)

`content.Successors` is what feeds `index`; the model's `succ` is "config, layers,
blobs, manifests, subject".  The table below is re-extracted from `content/graph.go`
on every run; these lemmas pin each manifest kind to the link fields the property
names, and every manifest media type to a row. -/
namespace Oras.Props.C07
open Oras

def linkFields (mt : String) : Option (List String) := (Gen.successorsCases.lookup mt)

theorem c07_successors_docker_manifest :
    linkFields "application/vnd.docker.distribution.manifest.v2+json" = some ["Config", "Layers"] := by decide +kernel
theorem c07_successors_oci_manifest :
    linkFields "application/vnd.oci.image.manifest.v1+json" = some ["Subject", "Config", "Layers"] := by decide +kernel
theorem c07_successors_docker_list :
    linkFields "application/vnd.docker.distribution.manifest.list.v2+json" = some ["Manifests"] := by decide +kernel
theorem c07_successors_oci_index :
    linkFields "application/vnd.oci.image.index.v1+json" = some ["Subject", "Manifests"] := by decide +kernel
theorem c07_successors_artifact :
    linkFields "application/vnd.oci.artifact.manifest.v1+json" = some ["Subject", "Blobs"] := by decide +kernel
/-- Every media type `IsManifest` recognises has a row in `Successors`. -/
theorem c07_every_manifest_type_has_links :
    Gen.manifestTypes.all (fun mt => (linkFields mt).isSome) = true := by decide +kernel

end Oras.Props.C07
