/-
  C01 — Copy replicates the whole rooted DAG and tags the root.
  Property theorems only.  Model: `Model/Copy.lean` (`copy.go` `copyGraph`), helper lemmas:
  `Proofs/Copy.lean`; the root's tagging paths: `Model/CopyRoot.lean`.  Facts regenerated from
  /repo: `Gen/Facts.lean`.
-/
import OrasModel.Proofs.Copy
import OrasModel.Gen.Facts
import OrasModel.Model.CopyRoot
namespace Oras.Props.C01
open Oras

/-- **Closure on success** — for every finite or infinite graph `kids`, every destination
    keying `dkey` satisfying key consistency, every link-closed initial destination, and
    every interleaving of the per-node steps (any trace `ls`, any number of roots, any
    concurrency): if every root finished, every node reachable from a root is present. -/
theorem c01_closure (c : CopyCfg) (hk : KeyCons c) (dst0 : List Nat) (h0 : ClosedKeys c dst0)
    (ls : List Label) (s : CopySt) (hr : run? c (CopySt.init dst0) ls = some s)
    (hroots : ∀ r ∈ c.roots, s.st r = .done) :
    ∀ n, Reachable c n → present c s n = true :=
  fun _ => (copyInv_reach hk h0 hr).reachable_present hroots

/-- Key-addressed destinations (memory store, registry manifests by media type) satisfy
    key consistency outright. -/
theorem c01_keycons_of_injective (c : CopyCfg) (hinj : ∀ m n, c.dkey m = c.dkey n → m = n) :
    KeyCons c := by
  intro m n h k hkk
  cases hinj m n h
  exact ⟨k, hkk, rfl⟩

/-- What was already in the destination stays there. -/
theorem c01_preexisting_kept (c : CopyCfg) (ls : List Label) (s s' : CopySt)
    (hr : run? c s ls = some s') (x : Nat) (hx : s.dst.contains x = true) :
    s'.dst.contains x = true :=
  run?_invariant (fun s => s.dst.contains x = true) (fun hs h => dst_mono_step hs x h) hr hx

/-- **Without key consistency the property is false** (finding F10): an index listing the
    same bytes once as `application/octet-stream` (node 1) and once as an image manifest
    (node 2, children 3 and 4), digest-keyed destination (`dkey 1 = dkey 2`).  The run
    succeeds — every step is enabled and the root is done — and the manifest's children
    are absent.  The harness replays this script on the real `oras.CopyGraph`. -/
def f10cfg : CopyCfg :=
  { kids := fun n => if n = 0 then [1, 2] else if n = 2 then [3, 4] else []
    dkey := fun n => if n = 2 then 1 else n
    roots := [0] }

def f10trace : List Label :=
  [.claim 0, .existsF 0, .claim 1, .existsF 1, .ready 1, .push 1,
   .claim 2, .existsT 2, .ready 0, .push 0]

theorem c01_counterexample_two_media_types :
    ∃ s, run? f10cfg (CopySt.init []) f10trace = some s ∧ s.st 0 = .done ∧
      retOk f10cfg s [0, 1, 2, 3, 4] = true ∧ present f10cfg s 3 = false ∧ present f10cfg s 4 = false := by
  refine ⟨_, rfl, ?_⟩
  decide

/-- `copyGraph` follows exactly config, layers, blobs, manifests and subject: the link
    fields of `content.Successors` for every manifest kind, and foreign layers are the four
    non-distributable media types. -/
theorem c01_successors_table :
    Gen.successorsCases.map (·.2) =
      [["Config", "Layers"], ["Subject", "Config", "Layers"], ["Manifests"],
       ["Subject", "Manifests"], ["Subject", "Blobs"]] := by rfl

theorem c01_foreign_table : Gen.foreignTypes.length = 4 ∧
    Gen.foreignTypes.all (fun t => !Gen.manifestTypes.contains t) = true := by
  constructor
  · rfl
  · decide +kernel

/-- Non-vacuity of `c01_closure`: a diamond with a shared blob copied with key-addressed
    destination; the hypotheses hold and the conclusion is exercised. -/
example :
    let c : CopyCfg := { kids := fun n => if n = 0 then [1, 2] else if n = 1 then [3] else if n = 2 then [3, 3] else [],
                         dkey := id, roots := [0] }
    let tr : List Label := [.claim 0, .existsF 0, .claim 1, .claim 2, .existsF 2, .existsF 1, .claim 3,
      .existsF 3, .ready 3, .push 3, .ready 1, .ready 2, .push 2, .push 1, .ready 0, .push 0]
    (run? c (CopySt.init []) tr).isSome = true ∧
    ((run? c (CopySt.init []) tr).map fun s => [0, 1, 2, 3].all (present c s)) = some true := by
  decide

/-- **The root is tagged exactly once on every successful `Copy`**, whichever of the four
    paths it takes (destination tags / pushes by reference; root copied / already present):
    exactly one tagging call is made, it comes after the root's content is in the
    destination (already present, pushed just before, or carried by `PushReference` itself),
    and the reference used is the destination reference, or the source reference when that
    was left blank. -/
theorem c01_root_tagged (i : RootIn) :
    ((rootFlow i).filter RootEv.tags).length = 1 ∧
    (i.present = true ∨ (rootFlow i).contains .pushReference = true ∨
      ∃ pre post, rootFlow i = pre ++ [.push, .tag] ++ post) ∧
    (∀ src dst : String, (dst ≠ "" → effectiveRef src dst = dst) ∧ (dst = "" → effectiveRef src dst = src)) := by
  have href : ∀ src dst : String,
      (dst ≠ "" → effectiveRef src dst = dst) ∧ (dst = "" → effectiveRef src dst = src) :=
    fun _ _ => ⟨fun h => if_neg h, fun h => if_pos h⟩
  obtain ⟨refPusher, present⟩ := i
  cases refPusher <;> cases present
  · exact ⟨rfl, .inr (.inr ⟨[.exists_, .userPreCopy], [.userPostCopy], rfl⟩), href⟩
  · exact ⟨rfl, .inl rfl, href⟩
  · exact ⟨rfl, .inr (.inl rfl), href⟩
  · exact ⟨rfl, .inl rfl, href⟩

/-- The caller's `PostCopy` for the root runs after the root is tagged (it can rely on the
    reference resolving), and `OnCopySkipped` before it. -/
theorem c01_root_hook_order :
    rootFlow ⟨false, false⟩ = [.exists_, .userPreCopy, .push, .tag, .userPostCopy] ∧
    rootFlow ⟨false, true⟩ = [.exists_, .userSkipped, .tag] := ⟨rfl, rfl⟩

end Oras.Props.C01
