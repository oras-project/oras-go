/-
  C06 under concurrency — any number of `Push`es of one descriptor at once
  (`Model/PushRace.lean`): with a test-and-set commit (the memory store's `LoadOrStore`)
  exactly one is accepted in every schedule; with a blind commit (`rename(2)`, the OCI layout)
  two can be (F20).  Property theorems only; invariant in `Proofs/PushRace.lean`.
  At the end, two facts read off the source: which commit each store uses, and the lock discipline
  of the OCI layout store, which is what makes a call one atomic step here and in C07 - C09.
-/
import OrasModel.Proofs.PushRace
import OrasModel.Gen.Facts
namespace Oras.Props.C06
open Oras Oras.PushRace

/-- **At most one concurrent push of a descriptor is accepted, and the content is stored
    exactly when one was** - for every assignment of good / bad contents to the pushers and
    every schedule of their atomic steps. -/
theorem c06_concurrent_push_one_accepted (good : Nat → Bool) (sched : List Nat) :
    let s := run .testAndSet (init good) sched
    (∀ i j, (s.ps i).res = some .ok → (s.ps j).res = some .ok → i = j) ∧
    (s.stored = true ↔ ∃ i, (s.ps i).res = some .ok) := by
  intro s
  have h := (core_run .testAndSet good sched).inv
  exact ⟨h.uniq, h.storedIff⟩

/-- **When the pushers have returned**: if one of them had matching content, exactly one was
    accepted, and every other one was told "already exists" (matching content) or got its
    verification error (other content) - nobody else was accepted, nobody is left hanging. -/
theorem c06_concurrent_push_outcomes (good : Nat → Bool) (sched : List Nat) (k : Nat)
    (hk : good k = true) (hdone : ((run .testAndSet (init good) sched).ps k).pc = 3) :
    let s := run .testAndSet (init good) sched
    ∃ w, (s.ps w).res = some .ok ∧ good w = true ∧
      ∀ j, (s.ps j).pc = 3 → j ≠ w →
        (good j = true → (s.ps j).res = some .exists_) ∧
        (good j = false → (s.ps j).res = some .exists_ ∨ (s.ps j).res = some .verifyErr) := by
  intro s
  have h := (core_run .testAndSet good sched).inv
  have hst : s.stored = true := h.doneGood k hdone (by rw [h.goodFixed k]; exact hk)
  obtain ⟨w, hw⟩ := h.storedIff.mp hst
  refine ⟨w, hw, by rw [← h.goodFixed w]; exact h.okGood w hw, ?_⟩
  intro j hj hne
  have hres := h.doneRes j hj
  have hnotok : (s.ps j).res ≠ some .ok := fun e => hne (h.uniq j w e hw)
  cases hr : (s.ps j).res with
  | none => exact absurd hr hres
  | some r =>
    cases r with
    | ok => exact absurd hr hnotok
    | exists_ => exact ⟨fun _ => rfl, fun _ => Or.inl rfl⟩
    | verifyErr =>
      have hb := h.verifyBad j hr
      rw [h.goodFixed j] at hb
      exact ⟨fun hg => (by rw [hb] at hg; cases hg), fun _ => Or.inr rfl⟩

/-- Every scheduled pusher that has not returned makes progress, so `n` pushers return within
    `3·n` scheduled steps of a fair schedule (each needs at most three). -/
theorem c06_concurrent_push_progress (cm : Commit) (s : St) (i : Nat) (h : (s.ps i).pc < 3) :
    ((step cm s i).ps i).pc > (s.ps i).pc := by
  obtain ⟨h3, _⟩ | ⟨b', p', hm, e⟩ := step_cases cm s i
  · omega
  · rw [e]
    show (fupd s.ps i p' i).pc > _
    rw [fupd_same]
    cases hm with
    | advance n h1 => exact h1
    | exists_ | verifyErr | accept => exact h

/-- F20 as a theorem about the model: with a commit that replaces what is there, two pushers
    that both pass the existence check are both accepted. -/
theorem c06_counterexample_blind_commit :
    accepted (run .blind (init (fun _ => true)) [0, 1, 1, 1, 0, 0]) 2 = 2 ∧
    accepted (run .testAndSet (init (fun _ => true)) [0, 1, 1, 1, 0, 0]) 2 = 1 := by
  decide

/-- Non-vacuity: three pushers, one with wrong content, interleaved; all return, one accepted. -/
example :
    let s := run .testAndSet (init (fun i => i != 1)) [0, 1, 2, 0, 1, 2, 2, 0]
    (s.ps 0).pc = 3 ∧ (s.ps 1).pc = 3 ∧ (s.ps 2).pc = 3 ∧ accepted s 3 = 1 ∧
      (s.ps 1).res = some .verifyErr ∧ (s.ps 0).res = some .exists_ := by
  decide

/-- **Which commit the code uses**: the memory store checks (`Load`), reads and verifies
    (`ReadAll`), then commits with `LoadOrStore`; the OCI layout checks (`os.Stat`), ingests
    and verifies, then commits with `os.Rename`. -/
theorem c06_push_commit_source_facts :
    Gen.casCalls = [("Memory.Push", ["descriptor.FromOCI", "m.content.Load", "fmt.Errorf", "contentpkg.ReadAll",
      "m.content.LoadOrStore", "fmt.Errorf"])] ∧
    Gen.ociCalls.lookup "Storage.Push" = some ["fmt.Errorf", "filepath.Join", "os.Stat", "fmt.Errorf", "os.IsNotExist",
      "filepath.Dir", "s.ingest", "os.Rename", "os.Remove", "errors.Is", "fmt.Errorf"] :=
  ⟨rfl, rfl⟩

/-- **Every operation of the OCI layout store runs under the store's lock from its first
    statement to its return** (deferred unlock): readers and writers of tags, content and graph
    under the read lock, `Delete` and `GC` under the write lock, `saveIndex` under the index
    lock for its whole body.  `Untag` alone checks its argument for emptiness first.  This is
    what makes each call one atomic step in the refinement theorems of this file and of C07 /
    C08 / C09; the race monitors (`s tagrace`, `s pushdelrace`, `s pushreopen`) look for a
    concrete schedule when it no longer holds. -/
theorem c06_lock_discipline_source_facts :
    Gen.ociLockDiscipline =
      ["Fetch:0:s.sync.RLock:defer s.sync.RUnlock:[]", "Push:0:s.sync.RLock:defer s.sync.RUnlock:[]",
       "Exists:0:s.sync.RLock:defer s.sync.RUnlock:[]", "Delete:0:s.sync.Lock:defer s.sync.Unlock:[]",
       "Tag:0:s.sync.RLock:defer s.sync.RUnlock:[]", "Resolve:0:s.sync.RLock:defer s.sync.RUnlock:[]",
       "Untag:1:s.sync.RLock:defer s.sync.RUnlock:[if reference == \"\"]",
       "Predecessors:0:s.sync.RLock:defer s.sync.RUnlock:[]", "Tags:0:s.sync.RLock:defer s.sync.RUnlock:[]",
       "SaveIndex:0:s.sync.RLock:defer s.sync.RUnlock:[]", "saveIndex:0:s.indexLock.Lock:defer s.indexLock.Unlock:[]",
       "GC:0:s.sync.Lock:defer s.sync.Unlock:[]"] :=
  rfl

end Oras.Props.C06
