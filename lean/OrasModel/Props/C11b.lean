/-
  C11 — what an archive's regular, directory and symbolic-link entries touch, in a directory
  that may hold links leading anywhere (`Model/LinkFS.lean`).  Property theorems only.

  The statement is partial with respect to the property: hard-link entries are outside the
  model (an inode shared with a file elsewhere is not a location; known finding F3b), and so
  are named blobs (`resolveWritePath` is lexical; known finding F3c).
-/
import OrasModel.Proofs.LinkFS
import OrasModel.Gen.Facts
namespace Oras.Props.C11
open Oras Oras.LinkFS

/-- **A path with no link on it resolves where it says.** -/
theorem c11_resolve_lexical (fs : FS) (p : Path) (h : NoLinkOn fs p) :
    resolve fs p = .error ∨ resolve fs p = .at p :=
  resolve_lexical fs p h

/-- **Nothing outside is created, truncated, removed or re-moded** by the regular, directory
    and symbolic-link entries of any archive, unpacked — with or without
    `PreservePermissions` — into a directory holding any objects at all: links to anywhere,
    placed before the extraction or by earlier entries (whose targets the code only checks
    lexically: the model lets every link entry lead anywhere).  Extraction that stops at a
    refused entry is covered: `run` returns what had been touched by then. -/
theorem c11_archive_touches_nothing_outside_partial (preserve : Bool) (fs : FS) (es : List Ent) :
    ∀ l ∈ (run true preserve ⟨fs, []⟩ es).touched, l ≠ .outside :=
  fun _ hl e => run_safe preserve es ⟨fs, []⟩ nofun (e ▸ hl)

/-- **An accepted regular entry ends up as a regular file at its own path**, whatever was there
    (a link included) and wherever that link led. -/
theorem c11_reg_lands_at_own_path (preserve : Bool) (st st' : St) (p : Path)
    (h : step true preserve st (.reg p) = some st') : st'.fs p = some .file := by
  rw [step_reg_some h]
  simp [FS.set]

/-- A directory holding a link to a file elsewhere and a link to a directory elsewhere. -/
def prepopulated : FS := fun q =>
  if q = [1] then some (.sym .outside) else if q = [2] then some (.sym .outside) else
  if q = [3] then some .dir else none

/-- The code before the repairs F24 and F25: a regular entry at the link's path is written
    through it, and a directory entry there has its mode applied through it. -/
theorem c11_counterexample_through_link_at_own_path :
    (run false false ⟨prepopulated, []⟩ [.reg [1]]).touched = [.outside] ∧
    (run false true ⟨prepopulated, []⟩ [.dir [2]]).touched = [.outside] ∧
    (run false false ⟨fun _ => none, []⟩ [.sym [1] .outside, .reg [1]]).touched = [.outside, .at [1]] := by
  refine ⟨by decide, by decide, by decide⟩

/-- Non-vacuity: the repaired code on the same inputs goes on and touches the entries' own
    locations; an entry beneath a link is refused. -/
example :
    (run true false ⟨prepopulated, []⟩ [.reg [1]]).touched = [.at [1], .at [1]] ∧
    (run true true ⟨prepopulated, []⟩ [.dir [2]]).touched = [.at [2], .at [2], .at [2]] ∧
    (run true false ⟨prepopulated, []⟩ [.reg [3, 7], .reg [2, 7], .reg [3, 8]]).touched = [.at [3, 7]] ∧
    (run true false ⟨fun _ => none, []⟩ [.sym [1] .outside, .reg [1], .dir [4, 5], .reg [4, 5, 6]]).touched =
      [.at [4, 5, 6], .at [4, 5], .at [4], .at [1], .at [1], .at [1]] := by
  refine ⟨by decide, by decide, by decide, by decide⟩

/-- The steps the model takes are the calls the source makes: the name check before the
    switch, a link at the entry's own path removed before a regular entry is written and
    before a directory is made, modes applied to regular and directory entries only, and the
    ancestor walk refusing a link. -/
theorem c11_extract_source_facts :
    Gen.extractPrelude = ["resolveRelToBase"] ∧
    Gen.extractCases.lookup "tar.TypeReg" = some ["os.Lstat", "os.Remove", "writeFile"] ∧
    Gen.extractCases.lookup "tar.TypeDir" = some ["os.Lstat", "os.Remove", "os.MkdirAll"] ∧
    Gen.extractCases.lookup "tar.TypeSymlink" = some ["ensureLinkPath", "os.Symlink", "os.Remove", "os.Symlink"] ∧
    Gen.extractChmodGuard = "preservePermissions && (header.Typeflag == tar.TypeReg || header.Typeflag == tar.TypeDir)" ∧
    Gen.relToBaseWalk.take 2 = ["for dir != \".\"", "init os.Lstat(filepath.Join(baseAbs, dir))"] ∧
    "if info.Mode() & os.ModeSymlink != 0" ∈ Gen.relToBaseWalk ∧
    Gen.relToBaseWalk.getLast? = some "dir = filepath.Dir(dir)" :=
  ⟨rfl, rfl, rfl, rfl, rfl, rfl, by decide, rfl⟩

end Oras.Props.C11
