/-
  C12 — Files and directories added to a file store come back identical, on the header/naming
  model (`Model/TarTree.lean`).  The tar and gzip wire formats, and real file systems, are exercised
  by the harness, not modelled.
-/
import OrasModel.Model.TarTree
import OrasModel.Props.C11
namespace Oras.Props.C12
open Oras Oras.Props.C11

theorem cleanStep_proper (stack : List Seg) (seg : Seg) (h : seg ≠ dotdot ∧ seg ≠ [] ∧ seg ≠ ['.']) :
    cleanStep false stack seg = seg :: stack := by
  unfold cleanStep
  simp [h.1, h.2.1, h.2.2]

theorem cleanSegs_id (l : List Seg) (h : NoDots l) : cleanSegs false l = l := by
  have : ∀ (stack : List Seg), l.foldl (cleanStep false) stack = l.reverse ++ stack := by
    induction l with
    | nil => exact fun _ => rfl
    | cons s ss ih =>
      intro stack
      obtain ⟨hs, hss⟩ := List.forall_mem_cons.mp h
      rw [List.foldl_cons, cleanStep_proper stack s hs, ih hss, List.reverse_cons, List.append_assoc,
        List.singleton_append]
  rw [cleanSegs, this, List.append_nil, List.reverse_reverse]

theorem relSegs_append (p r : List Seg) : relSegs p (p ++ r) = r := by
  induction p with
  | nil => cases r <;> rfl
  | cons x xs ih => simp [relSegs, ih]

/-- **Naming round trip**: the name `tarDirectory` gives an entry (prefix/rel) passes the
    extraction name check against the same directory name and maps back to `rel` — for every
    prefix and relative path made of proper elements. -/
theorem c12_name_roundtrip (pfx rel : List Seg) (hp : NoDots pfx) (hr : NoDots rel) :
    resolveEntryName pfx (cleanSegs false (pfx ++ rel)) = some rel := by
  have hpr : NoDots (pfx ++ rel) := List.forall_mem_append.mpr ⟨hp, hr⟩
  unfold resolveEntryName
  simp only [cleanSegs_id _ hpr, cleanSegs_id _ hp]
  rw [if_neg ((rel_inside_iff _ _ hpr).mpr (List.prefix_append _ _)), relSegs_append]

/-- **Entry round trip**: a regular file, directory or relative symlink comes back at the
    same relative path with the same content identity / link target, and with its mode
    (exactly when permissions are preserved, masked by the umask otherwise). -/
theorem c12_entry_roundtrip (removeTimes preserve : Bool) (umask : Nat) (pfx rel : List Seg)
    (hp : NoDots pfx) (hr : NoDots rel) (n : FsNode) :
    extractEntry preserve umask pfx (mkHeader removeTimes pfx rel n) =
      some (rel, n.kind,
        match n.kind with
        | .symlink _ => 0
        | _ => if preserve then n.perm else n.perm &&& (0o777 - (umask &&& 0o777))) := by
  unfold extractEntry
  have hname : resolveEntryName pfx (mkHeader removeTimes pfx rel n).name = some rel :=
    c12_name_roundtrip pfx rel hp hr
  rw [hname]
  cases hk : n.kind <;> simp [mkHeader, hk]

/-- **Reproducible tars**: with `TarReproducible` the header is a function of the name, the
    kind, the mode, the link target and the content only — not of timestamps or ownership. -/
theorem c12_reproducible (pfx rel : List Seg) (n m : FsNode) (hk : n.kind = m.kind) (hm : n.perm = m.perm) :
    mkHeader true pfx rel n = mkHeader true pfx rel m := by
  simp [mkHeader, hk, hm]

/-- Without it, the modification time is carried (so two trees differing only in times do
    differ in their tar): the option is what makes the descriptor time-independent. -/
theorem c12_times_matter_without_option (pfx rel : List Seg) (n : FsNode) :
    (mkHeader false pfx rel n).modTime = n.mtime ∧ (mkHeader true pfx rel n).modTime = 0 := by
  simp [mkHeader]

/-- Ownership never leaves the machine. -/
theorem c12_ownership_cleared (b : Bool) (pfx rel : List Seg) (n : FsNode) :
    (mkHeader b pfx rel n).uid = 0 ∧ (mkHeader b pfx rel n).gid = 0 := by
  simp [mkHeader]

/-- A tree as `tarDirectory` walks it: relative path and node, in walk order. -/
abbrev Tree := List (List Seg × FsNode)

/-- The archive `tarDirectory` writes for a tree. -/
def archiveOf (removeTimes : Bool) (pfx : List Seg) (t : Tree) : List TarHeader :=
  t.map fun e => mkHeader removeTimes pfx e.1 e.2

/-- What `extractTarDirectory` creates from an archive, entry by entry (`none` = rejected). -/
def extractAll (preserve : Bool) (umask : Nat) (pfx : List Seg) (hs : List TarHeader) :
    List (Option (List Seg × NodeKind × Nat)) :=
  hs.map (extractEntry preserve umask pfx)

/-- The mode an entry comes back with. -/
def restoredPerm (preserve : Bool) (umask : Nat) (n : FsNode) : Nat :=
  match n.kind with
  | .symlink _ => 0
  | _ => if preserve then n.perm else n.perm &&& (0o777 - (umask &&& 0o777))

/-- **Whole-tree round trip**: for every tree of regular files, directories and symlinks at
    clean relative paths — any size, any nesting, any walk order — extracting the archive the
    store wrote for it recreates every entry at the same relative path with the same content
    identity / link target and the expected mode; no entry is rejected and none is invented. -/
theorem c12_tree_roundtrip (removeTimes preserve : Bool) (umask : Nat) (pfx : List Seg) (t : Tree)
    (hp : NoDots pfx) (ht : ∀ e ∈ t, NoDots e.1) :
    extractAll preserve umask pfx (archiveOf removeTimes pfx t) =
      t.map fun e => some (e.1, e.2.kind, restoredPerm preserve umask e.2) := by
  unfold extractAll archiveOf
  rw [List.map_map]
  apply List.map_congr_left
  intro e he
  simp only [Function.comp]
  rw [c12_entry_roundtrip removeTimes preserve umask pfx e.1 hp (ht e he) e.2]
  rfl

/-- **Reproducible descriptors for whole trees**: with `TarReproducible`, two trees with the
    same paths, kinds (contents, link targets) and modes give the same archive, whatever
    their timestamps and owners — hence the same digest and descriptor. -/
theorem c12_tree_reproducible (pfx : List Seg) (t u : Tree)
    (h : t.map (fun e => (e.1, e.2.kind, e.2.perm)) = u.map (fun e => (e.1, e.2.kind, e.2.perm))) :
    archiveOf true pfx t = archiveOf true pfx u := by
  -- the archive is made from the projection alone
  have key : ∀ t : Tree, archiveOf true pfx t =
      (t.map fun e => (e.1, e.2.kind, e.2.perm)).map fun x => mkHeader true pfx x.1 ⟨x.2.1, x.2.2, 0, 0, 0, 0⟩ :=
    fun t => by rw [List.map_map]; rfl
  rw [key, key, h]

/-- Non-vacuity. -/
example :
    let n : FsNode := ⟨.file 7, 0o640, 111, 222, 1000, 1000⟩
    extractEntry false 0o022 ["data".toList] (mkHeader true ["data".toList] ["sub".toList, "f".toList] n)
      = some (["sub".toList, "f".toList], .file 7, 0o640) ∧
    resolveEntryName ["data".toList] ["other".toList, "f".toList] = none := by
  decide

end Oras.Props.C12
