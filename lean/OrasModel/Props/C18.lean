/-
  C18 — The credentials file store round-trips secrets and never damages the config file.
  Model: `Model/Cred.lean` (+ `Model/CrashFS.lean` style save).
-/
import OrasModel.Model.Cred
import OrasModel.Proofs.Ref
import OrasModel.Proofs.Basic
namespace Oras.Props.C18
open Oras

/-- `strings.Cut` inverts the `user:password` concatenation exactly when the user name has
    no colon — empty parts and colons in the password included. -/
theorem c18_cut (u p : Str) (h : ':' ∉ u) : splitFirst ':' (u ++ ':' :: p) = some (u, p) :=
  splitFirst_append u p h

theorem lookup_delete (c : CredCfg) (addr a : Str) :
    (c.delete addr).lookup a = if a = addr then none else c.lookup a :=
  assoc_remove c.auths addr a

theorem lookup_put (c : CredCfg) (addr a : Str) (cr : Cred) (h : ':' ∉ cr.username) :
    (c.put addr cr).1.lookup a = if a = addr then some (entryOfCred cr) else c.lookup a := by
  rw [CredCfg.put, if_neg h]
  exact assoc_write c.auths addr a (entryOfCred cr)

theorem credOfEntry_entryOfCred (cr : Cred) (h : ':' ∉ cr.username) :
    credOfEntry (entryOfCred cr) = some cr := by
  unfold credOfEntry entryOfCred encodeAuth
  by_cases he : cr.username = [] ∧ cr.password = []
  · obtain ⟨u, p, r, a⟩ := cr
    obtain ⟨rfl, rfl⟩ := he
    rfl
  · simp only [he, if_false, c18_cut _ _ h]

/-- **Round trip**: storing a credential and reading it back returns the same user name,
    password, refresh token and access token — for every credential whose user name has no
    colon (the others are rejected by `Put`), every address, every pre-existing document. -/
theorem c18_roundtrip (c : CredCfg) (addr : Str) (cr : Cred) (h : ':' ∉ cr.username) :
    (c.put addr cr).2 = .ok () ∧ (c.put addr cr).1.get addr = some cr := by
  refine ⟨by rw [CredCfg.put, if_neg h], ?_⟩
  rw [CredCfg.get, lookup_put c addr addr cr h, if_pos rfl]
  exact credOfEntry_entryOfCred cr h

/-- A user name with a colon is refused and nothing changes. -/
theorem c18_colon_rejected (c : CredCfg) (addr : Str) (cr : Cred) (h : ':' ∈ cr.username) :
    c.put addr cr = (c, .error .badFormat) := by
  simp [CredCfg.put, h]

/-- **Everything else is preserved**: every other registry's entry (with its unknown
    fields) and every other top-level key is untouched by `Put` and by `Delete`. -/
theorem c18_others_preserved (c : CredCfg) (addr other : Str) (cr : Cred) (hne : other ≠ addr) :
    (c.put addr cr).1.lookup other = c.lookup other ∧ (c.put addr cr).1.others = c.others ∧
    (c.delete addr).lookup other = c.lookup other ∧ (c.delete addr).others = c.others := by
  have hd : (c.delete addr).lookup other = c.lookup other := by rw [lookup_delete, if_neg hne]
  by_cases hc : ':' ∈ cr.username
  · rw [c18_colon_rejected c addr cr hc]
    exact ⟨rfl, rfl, hd, rfl⟩
  · exact ⟨by rw [lookup_put c addr other cr hc, if_neg hne], by rw [CredCfg.put, if_neg hc], hd, rfl⟩

/-- **Delete removes just that entry**: the exact key is gone. -/
theorem c18_delete_only_that (c : CredCfg) (addr : Str) : (c.delete addr).lookup addr = none := by
  rw [lookup_delete, if_pos rfl]

/-- Saving is temp-file + rename: at every crash point the config file is the old complete
    document or the new one (the script is create, chmod 0600, write, rename). -/
inductive SaveSys where | createTemp | chmodTemp | writeTemp | rename
  deriving DecidableEq

def applySave {α : Type} (new : α) (file : α) : SaveSys → α
  | .rename => new
  | _ => file

theorem c18_atomic {α : Type} (old new : α) (k : Nat) :
    let script := [SaveSys.createTemp, .chmodTemp, .writeTemp, .rename]
    (script.take k).foldl (applySave new) old = old ∨ (script.take k).foldl (applySave new) old = new := by
  match k with
  | 0 => left; rfl
  | 1 => left; rfl
  | 2 => left; rfl
  | 3 => left; rfl
  | k + 4 => right; simp [applySave]

/-- Non-vacuity: colons in the password, an empty user name, a legacy URL key. -/
example :
    let c : CredCfg := ⟨[("https://legacy.io/v1/".toList, ⟨some "a:b".toList, [], [], [], [], 7⟩)], [("credsStore".toList, 3)]⟩
    (c.put "r.io".toList ⟨"u".toList, "p:q:r".toList, "rt".toList, []⟩).1.get "r.io".toList
        = some ⟨"u".toList, "p:q:r".toList, "rt".toList, []⟩ ∧
    (c.put "r.io".toList ⟨[], "onlypass".toList, [], []⟩).1.get "r.io".toList = some ⟨[], "onlypass".toList, [], []⟩ ∧
    c.get "legacy.io".toList = some ⟨"a".toList, "b".toList, [], []⟩ ∧
    c.get "other.io".toList = some Cred.empty := by
  decide +kernel

end Oras.Props.C18
