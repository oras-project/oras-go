/-
  C02 — Destination stays link-closed at every instant; failures surface; retry works.
  Property theorems only (safety part on the per-node system of `Model/Copy.lean`,
  in which any unfinished node may fail at any time — error before the side effect,
  error after it (`pushLate`), abort, cancellation).
-/
import OrasModel.Proofs.CopyOrder
namespace Oras.Props.C02
open Oras

/-- **Closed at every instant, after every outcome**: every state reachable from a
    link-closed destination by any trace — with any faults, anywhere — is link-closed. -/
theorem c02_closed_always (c : CopyCfg) (hk : KeyCons c) (dst0 : List Nat) (h0 : ClosedKeys c dst0)
    (ls : List Label) (s : CopySt) (hr : run? c (CopySt.init dst0) ls = some s) :
    ClosedKeys c s.dst :=
  (copyInv_reach hk h0 hr).closed

/-- **No push completes before the node's successors are present**: whenever a push
    (successful or failing late) is enabled in a reachable state, every successor of the
    node is already in the destination. -/
theorem c02_push_after_children (c : CopyCfg) (hk : KeyCons c) (dst0 : List Nat)
    (h0 : ClosedKeys c dst0) (ls : List Label) (s s' : CopySt) (n : Node)
    (hr : run? c (CopySt.init dst0) ls = some s)
    (hp : step? c s (.push n) = some s' ∨ step? c s (.pushLate n) = some s') :
    ∀ k ∈ c.kids n, present c s k = true := by
  have hn : s.st n = .copying := by
    rcases hp with hp | hp <;> exact (step?_eq_some.mp hp).1
  exact (copyInv_reach hk h0 hr).copying_ready n hn

/-- A failed node never becomes done: failure is terminal, so success cannot be reported
    for a run in which a needed node failed (`retOk` requires every node idle or done). -/
theorem c02_failed_is_terminal (c : CopyCfg) (s s' : CopySt) (l : Label) (n : Node)
    (hf : s.st n = .failed) (hs : step? c s l = some s') : s'.st n = .failed :=
  failed_step hs hf

theorem c02_failure_surfaces (c : CopyCfg) (ls : List Label) (s s' : CopySt) (n : Node)
    (univ : List Node) (hn : n ∈ univ) (hf : s.st n = .failed) (hr : run? c s ls = some s') :
    retOk c s' univ = false :=
  retOk_failed hn (failed_stays hr hf)

/-- **Success is complete**: if the run reports success, every reachable node is present
    (contrapositive: an unrecovered failure on a needed node forbids success). -/
theorem c02_success_is_complete (c : CopyCfg) (hk : KeyCons c) (dst0 : List Nat)
    (h0 : ClosedKeys c dst0) (ls : List Label) (s : CopySt) (univ : List Node)
    (hr : run? c (CopySt.init dst0) ls = some s) (hok : retOk c s univ = true) :
    ∀ n, Reachable c n → present c s n = true :=
  fun _ => (copyInv_reach hk h0 hr).reachable_present (retOk_iff.mp hok).1

/-- **Retry works**: whatever a failed, cancelled or successful run left behind is a
    link-closed destination, hence a legitimate starting point for a fresh run, for which
    closure-on-success holds again. -/
theorem c02_retry_completes (c : CopyCfg) (hk : KeyCons c) (dst0 : List Nat) (h0 : ClosedKeys c dst0)
    (ls₁ : List Label) (s₁ : CopySt) (hr₁ : run? c (CopySt.init dst0) ls₁ = some s₁)
    (ls₂ : List Label) (s₂ : CopySt) (hr₂ : run? c (CopySt.init s₁.dst) ls₂ = some s₂)
    (hroots : ∀ r ∈ c.roots, s₂.st r = .done) :
    ∀ n, Reachable c n → present c s₂ n = true :=
  fun _ => (copyInv_reach hk (copyInv_reach hk h0 hr₁).closed hr₂).reachable_present hroots

/-- Non-vacuity: a run in which node 1's push fails late (stored, error returned) and the
    parent is aborted; the destination is closed, success is not reported, and a second
    run from what was left completes. -/
example :
    let c : CopyCfg := { kids := fun n => if n = 0 then [1, 2] else [], dkey := id, roots := [0] }
    let tr₁ : List Label := [.claim 0, .existsF 0, .claim 1, .existsF 1, .ready 1, .pushLate 1, .fail 0]
    let tr₂ : List Label := [.claim 0, .existsF 0, .claim 1, .existsT 1, .claim 2, .existsF 2, .ready 2,
      .push 2, .ready 0, .push 0]
    ((run? c (CopySt.init []) tr₁).map fun s => (retOk c s [0, 1, 2], s.dst)) = some (false, [1]) ∧
    ((run? c (CopySt.init [1]) tr₂).map fun s => (retOk c s [0, 1, 2], [0, 1, 2].all (present c s)))
      = some (true, true) := by
  decide

end Oras.Props.C02
