/-
  C19 — PackManifest produces a valid, self-consistent, pushable manifest.
  Model: `Model/Pack.lean`; media-type grammar: the regex tree regenerated from `pack.go`
  (`Gen/Regex.lean`).
-/
import OrasModel.Proofs.Pack
import OrasModel.Proofs.Re
import OrasModel.Gen.Regex
namespace Oras.Props.C19
open Oras

/-- **Rejected before anything is pushed**: an invalid media type, a subject with version
    1.0 and a missing artifact type leave the target untouched — no existence check, no
    push — for every input. -/
theorem c19_reject_before_push (i : PackIn) (e : PackErr) (h : (pack i).2 = .error e)
    (he : e = .unsupportedSubject ∨ e = .invalidMediaType ∨ e = .missingArtifactType) :
    (pack i).1 = [] := by
  rcases pack_outcome i with ⟨_, hp⟩ | ⟨_, hp⟩ | ⟨_, hp⟩
  · -- an early error comes with no event
    rw [hp]
  · -- the late error is none of the three
    rw [hp] at h
    cases h
    simp at he
  · -- a success is no error
    rw [hp] at h
    cases h

/-- **A malformed created time never yields a manifest push** (nor a success). -/
theorem c19_bad_created (i : PackIn) (h : i.created = .malformed) :
    PackEv.pushManifest ∉ (pack i).1 ∧ ∀ o, (pack i).2 ≠ .ok o := by
  rcases pack_outcome i with ⟨_, hp⟩ | ⟨_, hp⟩ | ⟨hc, _⟩
  · rw [hp]; exact ⟨List.not_mem_nil, fun _ => nofun⟩
  · rw [hp]
    refine ⟨fun hm => ?_, fun _ => nofun⟩
    unfold cfgEvs at hm
    split at hm
    · cases mem_inventBlob hm <;> contradiction
    · cases hm
  · exact absurd h hc

/-- **Closure of what the function invents**: on success, an invented config (and an
    invented placeholder layer) is present in the target before the manifest is pushed —
    it was pushed, or found present — and the manifest push is the last event. -/
theorem c19_closure (i : PackIn) (o : PackOut) (h : (pack i).2 = .ok o) :
    (pack i).1.getLast? = some .pushManifest ∧
    (o.configInvented = true →
      (PackEv.pushConfig ∈ (pack i).1 ∨ (PackEv.existsConfig ∈ (pack i).1 ∧ i.emptyBlobPresent = true))) ∧
    (o.layerPlaceholder = true → o.configInvented = false →
      (PackEv.pushLayer ∈ (pack i).1 ∨ (PackEv.existsLayer ∈ (pack i).1 ∧ i.emptyBlobPresent = true))) := by
  obtain ⟨rfl, hp⟩ := pack_ok h
  rw [hp]
  refine ⟨List.getLast?_concat .., fun hc => ?_, fun hl hc => ?_⟩
  · exact inventBlob_closure i _ _ fun e he => by simp [okEvs, hc, he]
  · exact inventBlob_closure i _ _ fun e he => by simp [okEvs, hc, hl, he]

/-- **Requested fields**: subject and artifact type are carried exactly when given
    (version 1.1), the placeholder layer appears exactly when no layer was given, and the
    clock is read only when no `created` annotation was supplied (determinism). -/
theorem c19_fields (i : PackIn) (o : PackOut) (h : (pack i).2 = .ok o) :
    (i.ver = .v11 → o.hasSubject = i.subject ∧ o.layerPlaceholder = i.layersEmpty ∧
      o.artifactTypeSet = decide (i.artifactType ≠ .empty)) ∧
    (i.ver = .v10 → o.hasSubject = false ∧ o.layerPlaceholder = false) ∧
    (o.createdFilled = decide (i.created = .absent)) ∧
    (o.configInvented = i.config.isNone) := by
  obtain ⟨rfl, -⟩ := pack_ok h
  unfold packOut
  split <;> simp [*]

/-- **Media types**: every string the generated `mediaTypeRegexp` accepts is made of the
    RFC 6838 restricted-name characters and `/` only. -/
theorem c19_mediatype_chars (s : List Char) (h : Gen.mediaTypeRe.accepts s = true) :
    ∀ c ∈ s, c.isAlphanum ∨ c ∈ ['!', '#', '$', '&', '^', '_', '.', '+', '-', '/'] := by
  intro c hc
  have hin := Re.accepts_alphabet s Gen.mediaTypeRe h c hc
  -- the alphabet of the generated tree, as a decidable check on code points
  have key : ∀ n : Nat, n < 128 →
      Re.inRanges Gen.mediaTypeRe.alphabet (Char.ofNat n) = true →
      ((Char.ofNat n).isAlphanum ∨ (Char.ofNat n) ∈ ['!', '#', '$', '&', '^', '_', '.', '+', '-', '/']) := by
    decide +kernel
  have hlt : c.toNat < 128 := by
    -- every range of the tree ends below 128
    have : ∀ r ∈ Gen.mediaTypeRe.alphabet, r.2 < 128 := by decide
    simp only [Re.inRanges, List.any_eq_true, Bool.and_eq_true, decide_eq_true_eq] at hin
    obtain ⟨r, hr, _, h2⟩ := hin
    have := this r hr
    omega
  have := key c.toNat hlt
  rw [Char.ofNat_toNat] at this
  exact this hin

/-- Non-vacuity: the three documented rejections and a success with placeholders. -/
example :
    (pack ⟨.v10, .valid, none, true, true, .absent, true, false⟩).2 = .error .unsupportedSubject ∧
    (pack ⟨.v11, .empty, none, true, false, .absent, true, false⟩).2 = .error .missingArtifactType ∧
    (pack ⟨.v11, .invalid, none, true, false, .absent, true, false⟩) = ([], .error .invalidMediaType) ∧
    (pack ⟨.v11, .valid, none, true, false, .malformed, true, false⟩).1 = [.existsConfig, .pushConfig] ∧
    (pack ⟨.v11, .valid, none, true, false, .absent, true, false⟩).1 = [.existsConfig, .pushConfig, .pushManifest] := by
  refine ⟨by rfl, by rfl, by rfl, by rfl, by rfl⟩

/-- **RFC 6838 length rule, about the expression the source compiles**: an accepted media
    type has a type and a subtype of 1 to 127 characters each, so between 3 and 255
    characters in all. -/
theorem c19_mediatype_length (s : List Char) (h : Gen.mediaTypeRe.accepts s = true) :
    3 ≤ s.length ∧ s.length ≤ 255 :=
  Re.length_bounds h (by decide) (by decide)

end Oras.Props.C19
