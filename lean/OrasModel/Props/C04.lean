/-
  C04 — Copy work accounting: single transfer, ordered callbacks (proved on the per-node
  system of `Model/Copy.lean`).  Bounded concurrency (permit accounting of `Model/Permits.lean`)
  is in `Props/C04b.lean`, the claim itself (`Model/Tracker.lean`) in `Props/C04c.lean`.
  Property theorems only.

  Reading of the labels: `claim n` = the unique successful `TryCommit`; `existsT n` =
  OnCopySkipped; `ready n` = PreCopy (the node's successors have all finished);
  `push n` = Fetch + Push (or Mount / PushReference) + PostCopy/OnMounted;
  `pushLate`/`fail` = an error after / before the content was stored.
-/
import OrasModel.Proofs.CopyOrder
namespace Oras.Props.C04
open Oras

/-- **Everything at most once**: in any run (any interleaving, any faults), for each node
    there is at most one `claim`, at most one `existsF`, at most one `ready` (PreCopy) and
    at most one terminal event among `existsT` (OnCopySkipped), `push` (PostCopy),
    `pushLate`, `fail`.  Hence no blob or manifest is pushed twice, no node is both skipped
    and copied, and every PreCopy is followed by at most one PostCopy. -/
theorem c04_labels_once (c : CopyCfg) (dst0 : List Nat) (ls : List Label) (s : CopySt)
    (hr : run? c (CopySt.init dst0) ls = some s) :
    (ls.map fun l => (l.node, l.target.rank)).Nodup :=
  labels_once hr

/-- Single owner: a node is claimed at most once per run (with the shared tracker of
    `ExtendedCopyGraph`, per call). -/
theorem c04_single_owner (c : CopyCfg) (dst0 : List Nat) (ls : List Label) (s : CopySt) (n : Node)
    (hr : run? c (CopySt.init dst0) ls = some s) :
    (ls.filter (fun l => l == .claim n)).length ≤ 1 :=
  length_filter_le_one (labels_once hr) _ (n, NSt.claimed.rank) fun l hl => by rw [beq_iff_eq.mp hl]; rfl

/-- No node is pushed more than once (successfully or failing late). -/
theorem c04_push_once (c : CopyCfg) (dst0 : List Nat) (ls : List Label) (s : CopySt) (n : Node)
    (hr : run? c (CopySt.init dst0) ls = some s) :
    (ls.filter (fun l => l == .push n || l == .pushLate n)).length ≤ 1 :=
  length_filter_le_one (labels_once hr) _ (n, NSt.done.rank) fun l hl => by
    rcases Bool.or_eq_true _ _ ▸ hl with h | h <;> rw [beq_iff_eq.mp h] <;> rfl

/-- **PreCopy before PostCopy**: whenever `push n` fires, `ready n` fired earlier. -/
theorem c04_precopy_before_postcopy (c : CopyCfg) (dst0 : List Nat) (pre : List Label) (n : Node)
    (s : CopySt) (hr : run? c (CopySt.init dst0) (pre ++ [.push n]) = some s) :
    Label.ready n ∈ pre := by
  obtain ⟨s1, h1, hs⟩ := run?_concat.mp hr
  exact ready_of_copying h1 (step?_eq_some.mp hs).1

/-- **A node's PostCopy comes after the terminal notification of each successor**: when
    `push p` fires, every successor `k` already had its `push k` (PostCopy/OnMounted) or
    `existsT k` (OnCopySkipped). -/
theorem c04_postcopy_after_successors (c : CopyCfg) (dst0 : List Nat)
    (pre : List Label) (p : Node) (s : CopySt)
    (hr : run? c (CopySt.init dst0) (pre ++ [.push p]) = some s) :
    ∀ k ∈ c.kids p, Label.push k ∈ pre ∨ Label.existsT k ∈ pre := by
  intro k hkk
  -- split the prefix at `ready p`: there every successor was done
  obtain ⟨a, b, rfl⟩ := List.append_of_mem (c04_precopy_before_postcopy c dst0 pre p s hr)
  obtain ⟨_, h1, _⟩ := run?_concat.mp hr
  obtain ⟨sa, ha, hb⟩ := run?_append.mp h1
  obtain ⟨_, hst, _⟩ := run?_cons.mp hb
  have hdone : sa.st k = .done := (step?_eq_some.mp hst).1.2 k hkk
  exact (push_or_existsT_of_done ha hdone).imp (List.mem_append_left _) (List.mem_append_left _)

/-- A failing callback (any `fail` / `pushLate`) aborts the copy: success is not reported. -/
theorem c04_callback_error_aborts (c : CopyCfg) (s s1 s' : CopySt) (n : Node) (ls : List Label)
    (univ : List Node) (hn : n ∈ univ)
    (hf : step? c s (.fail n) = some s1 ∨ step? c s (.pushLate n) = some s1)
    (hr : run? c s1 ls = some s') : retOk c s' univ = false := by
  have hfailed : s1.st n = .failed := by
    rcases hf with hf | hf <;> exact step_node hf
  exact retOk_failed hn (failed_stays hr hfailed)

/-- Non-vacuity: a shared child, a skipped node and ordered callbacks in one run. -/
example :
    let c : CopyCfg := { kids := fun n => if n = 0 then [1, 2] else if n = 1 then [3] else if n = 2 then [3] else [],
                         dkey := id, roots := [0] }
    let tr : List Label := [.claim 0, .existsF 0, .claim 1, .existsF 1, .claim 2, .existsT 2, .claim 3,
      .existsF 3, .ready 3, .push 3, .ready 1, .push 1, .ready 0, .push 0]
    (run? c (CopySt.init [2, 3]) tr).isSome = false ∧   -- 3 is present: existsF 3 is not enabled
    (run? c (CopySt.init [2]) tr).isSome = true := by
  decide

end Oras.Props.C04
