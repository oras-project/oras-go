/-
  C05 — Only content matching its descriptor ever becomes visible in a store.
  Property theorems only.  Model: `Model/Verify.lean`; helpers: `Proofs/Verify.lean`.
-/
import OrasModel.Proofs.Verify
namespace Oras.Props.C05
open Oras

variable {Dig : Type} [DecidableEq Dig] (H : Bytes → Dig)

/-- `ReadAll`/`FetchAll` hand back data without error **iff** the size is non-negative,
    the digest is well-formed, the reader delivers exactly the returned bytes followed by
    a clean EOF, their length is `Size` and their hash is `Digest` — for every chunking,
    zero-length reads, and error position.  Every other reader/descriptor is an error. -/
theorem c05_readAll_iff (d : VDesc Dig) (r : Reader) (b : Bytes) :
    readAll H d r = .ok b ↔
      (0 ≤ d.size ∧ d.dig = some (H b) ∧ (b.length : Int) = d.size ∧ delivered r = (b, true)) := by
  unfold readAll
  by_cases hs : d.size < 0
  · rw [if_pos hs]; exact ⟨nofun, fun h => by omega⟩
  rw [if_neg hs]
  cases d.dig with
  | none => exact ⟨nofun, fun h => nomatch h.2.1⟩
  | some dg =>
    rw [pull_verifyTail_ok, Option.some.injEq]
    constructor
    · rintro ⟨rfl, hn, hd⟩; exact ⟨by omega, rfl, by omega, hd⟩
    · rintro ⟨_, rfl, hn, hd⟩; exact ⟨rfl, by omega, hd⟩

/-- Bytes beyond `Size` are an error for `ReadAll` (never silently dropped). -/
theorem c05_readAll_trailing (d : VDesc Dig) (r : Reader) (b : Bytes)
    (hd : (delivered r).1.length > d.size.toNat) : readAll H d r ≠ .ok b := by
  intro h
  obtain ⟨_, _, hlen, hdel⟩ := (c05_readAll_iff H d r b).mp h
  rw [hdel] at hd
  simp only at hd
  omega

/-- With the repair of F7, `CopyBuffer` (the path of the OCI layout and the file store)
    accepts exactly what `ReadAll` accepts. -/
theorem c05_copyBuffer_eq_readAll (d : VDesc Dig) (r : Reader) :
    copyBuffer H d r = readAll H d r :=
  rfl

/-- `CopyBuffer`: success means the bytes written are exactly what the reader delivered up
    to a clean EOF, `Size` of them, hashing to `Digest`. -/
theorem c05_copyBuffer_sound (d : VDesc Dig) (r : Reader) (b : Bytes)
    (h : copyBuffer H d r = .ok b) :
    0 ≤ d.size ∧ d.dig = some (H b) ∧ (b.length : Int) = d.size ∧ delivered r = (b, true) := by
  rw [c05_copyBuffer_eq_readAll] at h
  exact (c05_readAll_iff H d r b).mp h

/-- Finding F7 (repaired by a `fix:` commit): before the repair a descriptor of size −1
    with the digest of the empty string was accepted with empty content.  The model now
    rejects it, as the code does; the harness replays the same witness on every run. -/
theorem c05_negative_size_rejected (dg : Option Bytes) (r : Reader) :
    copyBuffer (Dig := Bytes) id ⟨dg, -1⟩ r = .error .invalidSize := by
  unfold copyBuffer; simp

/-- `cas.Memory.Push`: the visible map changes only on success, and then by exactly
    `key ↦ verified bytes`; a refused or failed push changes nothing. -/
theorem c05_memPush_visible {κ : Type} [DecidableEq κ] (m : CMap κ) (k : κ) (d : VDesc Dig) (r : Reader) :
    ((memPush H m k d r).2 = .ok () →
        m.get k = none ∧ ∃ b, (memPush H m k d r).1.get k = some b ∧ d.dig = some (H b) ∧
          (b.length : Int) = d.size ∧ delivered r = (b, true) ∧
          ∀ k', k' ≠ k → (memPush H m k d r).1.get k' = m.get k') ∧
    ((memPush H m k d r).2 ≠ .ok () → (memPush H m k d r).1 = m) := by
  unfold memPush
  cases hg : m.get k with
  | some v => simp
  | none =>
    cases hr : readAll H d r with
    | error e => simp
    | ok b =>
      simp only [true_and, ne_eq, not_true_eq_false, false_implies, and_true, forall_const]
      obtain ⟨_, h2, h3, h4⟩ := (c05_readAll_iff H d r b).mp hr
      exact ⟨b, (CMap.get_cons ..).trans (if_pos rfl), h2, h3, h4,
        fun k' hk => (CMap.get_cons ..).trans (if_neg hk)⟩

/-- OCI layout `Storage.Push`: a file appears under `blobs/` only on success, named by the
    hash of exactly the bytes delivered; failure leaves the listing unchanged. -/
theorem c05_ociPush_visible (m : CMap Dig) (d : VDesc Dig) (r : Reader) :
    ((ociPush H m d r).2 = .ok () →
        ∃ b, d.dig = some (H b) ∧ m.get (H b) = none ∧ (ociPush H m d r).1.get (H b) = some b ∧
          b.length = d.size.toNat ∧ delivered r = (b, true) ∧
          ∀ k', k' ≠ H b → (ociPush H m d r).1.get k' = m.get k') ∧
    ((ociPush H m d r).2 ≠ .ok () → (ociPush H m d r).1 = m) := by
  cases hdg : d.dig with
  | none => simp [ociPush, hdg]
  | some dg =>
    rw [ociPush_eq_memPush H m d r dg hdg]
    refine ⟨fun hok => ?_, (c05_memPush_visible H m dg d r).2⟩
    obtain ⟨hfree, b, hget, hb, hlen, hdel, hother⟩ := (c05_memPush_visible H m dg d r).1 hok
    cases hdg.symm.trans hb
    exact ⟨b, rfl, hfree, hget, by omega, hdel, hother⟩

/-- Every blob visible in an OCI layout is named by the hash of its bytes. -/
def Good (m : CMap Dig) : Prop := ∀ dg b, m.get dg = some b → H b = dg

/-- Any sequence of pushes — good and bad content, repeated digests, in any order (the
    serialisation of concurrent pushes at the atomic `rename`) — preserves `Good`. -/
theorem c05_pushes_good (ps : List (VDesc Dig × Reader)) (m : CMap Dig) (hm : Good H m) :
    Good H (ps.foldl (fun m p => (ociPush H m p.1 p.2).1) m) := by
  refine List.foldlRecOn ps _ hm fun m hm p _ dg b hget => ?_
  have hv := c05_ociPush_visible H m p.1 p.2
  by_cases hok : (ociPush H m p.1 p.2).2 = .ok ()
  · obtain ⟨b', _, _, hb3, _, _, hb6⟩ := hv.1 hok
    by_cases e : dg = H b'
    · subst e
      rw [hb3] at hget
      cases hget; rfl
    · rw [hb6 dg e] at hget
      exact hm dg b hget
  · rw [hv.2 hok] at hget
    exact hm dg b hget

/-- `LimitedStorage.Push`: oversize is refused before reading; otherwise as `Memory.Push`
    on the first `Size` bytes. -/
theorem c05_limitedPush_sound {κ : Type} [DecidableEq κ] (limit : Int) (m : CMap κ) (k : κ)
    (d : VDesc Dig) (r : Reader) (h : (limitedPush H limit m k d r).2 = .ok ()) :
    d.size ≤ limit ∧ ∃ b, (limitedPush H limit m k d r).1.get k = some b ∧ d.dig = some (H b) ∧
      (b.length : Int) = d.size := by
  unfold limitedPush at h ⊢
  by_cases hl : d.size > limit
  · simp [hl] at h
  · simp only [hl, if_false] at h ⊢
    obtain ⟨_, b, h1, h2, h3, _⟩ := (c05_memPush_visible H m k d _).1 h
    exact ⟨by omega, b, h1, h2, h3⟩

/-- Non-vacuity: a reader that delivers `[1,2,3]` in chunks `[1]`, `[]`, `[2,3]`+EOF is
    accepted for the right descriptor, rejected for a short size (trailing data), a long
    size (unexpected EOF), a wrong digest, and when it fails after the last byte. -/
example :
    readAll (Dig := Bytes) id ⟨some [1,2,3], 3⟩ [.data [1], .data [], .dataEof [2,3]] = .ok [1,2,3] ∧
    readAll (Dig := Bytes) id ⟨some [1,2], 2⟩ [.data [1], .data [], .dataEof [2,3]] = .error .trailingData ∧
    readAll (Dig := Bytes) id ⟨some [1,2,3], 4⟩ [.data [1], .data [], .dataEof [2,3]] = .error .unexpectedEOF ∧
    readAll (Dig := Bytes) id ⟨some [9], 3⟩ [.data [1], .data [], .dataEof [2,3]] = .error .mismatchedDigest ∧
    readAll (Dig := Bytes) id ⟨some [1,2,3], 3⟩ [.data [1], .dataErr [2,3]] = .error .readerErr ∧
    readAll (Dig := Bytes) id ⟨some [1,2,3], 3⟩ [.data [1], .dataErrOnce [2,3], .eof] = .error .readerErr ∧
    readAll (Dig := Bytes) id ⟨some [], -1⟩ [] = .error .invalidSize := by
  refine ⟨by rfl, by rfl, by rfl, by rfl, by rfl, by rfl, by rfl⟩

end Oras.Props.C05
