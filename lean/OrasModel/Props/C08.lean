/-
  C08 — An OCI layout on disk is always valid and reopens to the same observable state.
  Model: `Model/Oci.lean`; helpers: `Proofs/OciReopen.lean`, `Proofs/OciDelete.lean` (`RefUniq`).
-/
import OrasModel.Proofs.OciDelete
import OrasModel.Proofs.OciReopen
import OrasModel.Gen.Facts
namespace Oras.Props.C08
open Oras Oras.OciSt

/-- Digest references point at their own node (a reference is never another node's
    digest — the property's restriction, kept by `Push`/`Tag` of a node's own digest). -/
def DigInv (st : OciSt) : Prop := ∀ m n a, (RefKey.dig m, n, a) ∈ st.refs → m = n
/-- Every named node also has its digest reference (`Store.tag` tags the digest first). -/
def TagHasDig (st : OciSt) : Prop := ∀ nm n a, (RefKey.tag nm, n, a) ∈ st.refs → ∃ a', (RefKey.dig n, n, a') ∈ st.refs

/-- **Reopen keeps the tag → descriptor mapping**: after the index was saved (auto-save or
    `SaveIndex`), opening the directory again — read-write, through an `fs.FS`, or from a
    tar — resolves every reference name to the same node with the same annotations (the
    `org.opencontainers.image.ref.name` annotation aside), and names that did not resolve
    still do not.  For every store state with unique reference keys. -/
theorem c08_reopen_tags (c : OciCfg) (st : OciSt) (fuel : Nat) (hu : RefUniq st)
    (hsaved : st.indexFile = st.project) (nm : Nat) :
    (st.reopen c fuel).lookupRef (.tag nm) = st.lookupRef (.tag nm) := by
  unfold reopen
  rw [loadIndex_eq_foldl]
  simp only [hsaved]
  apply lookup_foldl_applyEntry (P := fun o => o = st.lookupRef (.tag nm))
  · -- a provider is the entry written for this very reference
    intro e he hp
    simp only [provides, beq_iff_eq] at hp
    rcases (mem_project st e).mp he with ⟨nm', hin, hname⟩ | ⟨hname, _, _⟩
    · cases hp.trans hname
      exact (lookup_of_mem st hu _ _ hin).symm
    · cases hp.trans hname
  · intro hnone
    cases hl : st.lookupRef (.tag nm) with
    | none => rfl
    | some v =>
      have := hnone (v.1, some nm, v.2) ((mem_project st _).mpr (Or.inl ⟨nm, mem_of_lookup st _ _ hl, rfl⟩))
      simp [provides] at this

/-- **Reopen keeps resolve-by-digest**: a digest resolves after reopening iff it resolved
    before, and to the same node (the descriptor returned for a digest is plain). -/
theorem c08_reopen_digests (c : OciCfg) (st : OciSt) (fuel : Nat) (hu : RefUniq st)
    (hd : DigInv st) (ht : TagHasDig st) (hsaved : st.indexFile = st.project) (n : Node) :
    ((st.reopen c fuel).lookupRef (.dig n)).map (·.1) = (st.lookupRef (.dig n)).map (·.1) := by
  unfold reopen
  rw [loadIndex_eq_foldl]
  simp only [hsaved]
  apply lookup_foldl_applyEntry (P := fun o => o.map (·.1) = (st.lookupRef (.dig n)).map (·.1))
  · -- a provider was written for a reference to `n`, so `n` has its digest reference
    intro e he hp
    simp only [provides, beq_iff_eq] at hp
    subst hp
    have : ∃ a', (RefKey.dig e.1, e.1, a') ∈ st.refs := by
      rcases (mem_project st e).mp he with ⟨nm', hin, _⟩ | ⟨_, ⟨m, hin⟩, _⟩
      · exact ht _ _ _ hin
      · exact ⟨_, hd _ _ _ hin ▸ hin⟩
    obtain ⟨a', hin⟩ := this
    rw [lookup_of_mem st hu _ _ hin]; rfl
  · -- a digest that resolves has an entry: a named one, or else its own
    intro hnone
    cases hl : st.lookupRef (.dig n) with
    | none => rfl
    | some v =>
      exfalso
      have hmem := mem_of_lookup st _ _ hl
      have hn := hd _ _ _ hmem
      by_cases htag : ∃ nm a', (RefKey.tag nm, n, a') ∈ st.refs
      · obtain ⟨nm, a', hin⟩ := htag
        have := hnone (n, some nm, a') ((mem_project st _).mpr (Or.inl ⟨nm, hin, rfl⟩))
        simp [provides] at this
      · have := hnone (n, none, v.2) ((mem_project st _).mpr
          (Or.inr ⟨rfl, ⟨n, hn ▸ hmem⟩, fun nm a' hin => htag ⟨nm, a', hin⟩⟩))
        simp [provides] at this

/-- The tag list (`Tags`) is the same set after reopening. -/
theorem c08_reopen_tag_names (c : OciCfg) (st : OciSt) (fuel : Nat) (hu : RefUniq st)
    (hsaved : st.indexFile = st.project) (nm : Nat) :
    ((st.reopen c fuel).lookupRef (.tag nm)).isSome = (st.lookupRef (.tag nm)).isSome := by
  rw [c08_reopen_tags c st fuel hu hsaved nm]

/-- **Every named index entry points to stored content**, as long as every reference does
    (`RefBlobInv`, which `Tag` establishes by checking existence and `Delete` keeps by
    untagging before removing the blob). -/
def RefBlobInv (st : OciSt) : Prop := ∀ e ∈ st.refs, e.2.1 ∈ st.blobs

theorem c08_index_entries_have_blobs (st : OciSt) (h : RefBlobInv st) :
    ∀ e ∈ st.project, e.1 ∈ st.blobs := by
  intro e he
  rcases (mem_project st e).mp he with ⟨nm, hin, _⟩ | ⟨_, ⟨m, hin⟩, _⟩
  · exact h _ hin
  · exact h _ hin

theorem c08_tag_keeps_refBlobInv (st : OciSt) (n : Node) (a : Nat) (k : Option RefKey) (h : RefBlobInv st) :
    RefBlobInv (st.tag n a k).1 := by
  -- a reference to stored content joins the others; the index file is not looked at
  have step : ∀ (s : OciSt) (k' : RefKey), RefBlobInv s → n ∈ s.blobs → RefBlobInv (s.resolverTag n a k') :=
    fun s k' hs hn e he => (List.mem_cons.mp he).elim (· ▸ hn) fun he => hs e (List.mem_filter.mp he).1
  have save : ∀ s : OciSt, RefBlobInv s → RefBlobInv s.autosave := fun s hs => by
    unfold autosave; split <;> exact hs
  unfold OciSt.tag
  split
  · exact h
  · split
    · next hb =>
      unfold tagInternal
      refine save _ (step _ _ ?_ (by split <;> exact hb))
      split
      · exact step _ _ h hb
      · exact h
    · exact h

/-- GC persists the pruned index in the current source (repair of F5; re-extracted fact). -/
theorem c08_gc_saves_index : Gen.gcSavesIndex = true := rfl

/-- Non-vacuity: tag, re-tag, untag, reopen on a concrete store. -/
example :
    let c : OciCfg := { succ := fun n => if n = 2 then [0, 1] else [], isMan := fun n => n == 2 || n == 3, subject := fun _ => none }
    let s := ((((((OciSt.empty.push c 0).1).push c 2).1.push c 3).1.tag 2 1 (some (.tag 7))).1.tag 3 0 (some (.tag 7))).1
    let r := s.reopen c 20
    s.indexFile = s.project ∧ r.lookupRef (.tag 7) = some (3, 0) ∧ (r.lookupRef (.dig 2)).map (·.1) = some 2 := by
  decide

end Oras.Props.C08
