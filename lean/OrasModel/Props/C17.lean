/-
  C17 — Re-sent requests carry the whole body; retries are bounded and paced.
  Model: `Model/Retry.lean`, `Model/AuthBody.lean`.  First `roundTrip` from any attempt on (what
  the attempts receive, where the pauses lie), then the property theorems.
-/
import OrasModel.Model.Retry
import OrasModel.Model.AuthBody
import OrasModel.Gen.Facts
namespace Oras.Props.C17
open Oras

section
variable (p : RetryPolicy) (body : BodyKind) (cancelAt : Option Nat)

theorem clamp_mem (hmm : p.minWait ≤ p.maxWait) (b : Int) : p.minWait ≤ clamp p b ∧ clamp p b ≤ p.maxWait := by
  rw [clamp]
  omega

theorem roundTrip_recv (script : List Srv) (attempt : Nat) (consumed : Bool) (recv : List Recv) (pauses : List Int)
    (ha : attempt ≤ p.maxRetry) :
    ∃ n, attempt + n ≤ p.maxRetry + 1 ∧
      (roundTrip p body cancelAt script attempt consumed recv pauses).recv =
        recv ++ List.replicate n (recvOf body consumed) := by
  -- the branches of `roundTrip`: 1 script at its end, 2 last attempt allowed, 3 predicate error,
  -- 4 not retryable, 5 retryable but the body is one-shot, 6 cancelled in the pause, 7 next attempt
  fun_induction roundTrip p body cancelAt script attempt consumed recv pauses
  case case1 => exact ⟨0, Nat.le_succ_of_le ha, (List.append_nil _).symm⟩
  case case2 | case3 | case4 | case5 | case6 => exact ⟨1, Nat.succ_le_succ ha, rfl⟩
  -- the loop goes on only with a body that is not one-shot, so `consumed` is as it was
  case case7 consumed _ _ _ consumed' hlt _ _ _ hb _ ih =>
    obtain ⟨n, hn, hrecv⟩ := ih (Nat.lt_of_not_le hlt)
    have hc : consumed' = consumed := by simp [consumed', hb]
    refine ⟨n + 1, by omega, ?_⟩
    rw [hrecv, hc, List.replicate_succ, List.append_assoc]
    rfl

theorem roundTrip_pauses (hmm : p.minWait ≤ p.maxWait) (script : List Srv) (attempt : Nat) (consumed : Bool)
    (recv : List Recv) (pauses : List Int) :
    ∀ d ∈ (roundTrip p body cancelAt script attempt consumed recv pauses).pauses,
      d ∈ pauses ∨ (p.minWait ≤ d ∧ d ≤ p.maxWait) := by
  have hnew (pauses : List Int) (b : Int) :
      ∀ d ∈ pauses ++ [clamp p b], d ∈ pauses ∨ (p.minWait ≤ d ∧ d ≤ p.maxWait) :=
    List.forall_mem_append.2 ⟨fun _ => .inl, List.forall_mem_singleton.2 (.inr (clamp_mem p hmm b))⟩
  -- branches as in `roundTrip_recv`: 1–4 end without a pause, 5 and 6 end after one, 7 goes on after one
  fun_induction roundTrip p body cancelAt script attempt consumed recv pauses
  case case1 | case2 | case3 | case4 => exact fun _ => .inl
  case case5 | case6 => exact hnew _ _
  case case7 ih => exact fun d hd => (ih d hd).elim (hnew _ _ d) .inr

theorem recvOf_fresh {consumed : Bool} (h : body = .oneshot → consumed = false) : recvOf body consumed ≠ .truncated := by
  cases body with
  | none | replay => nofun
  | oneshot => rw [h rfl]; nofun

theorem roundTrip_full (script : List Srv) (consumed : Bool) (h : body = .oneshot → consumed = false) :
    ∀ r ∈ (roundTrip p body cancelAt script 0 consumed [] []).recv, r ≠ .truncated := by
  obtain ⟨n, -, hr⟩ := roundTrip_recv p body cancelAt script 0 consumed [] [] (Nat.zero_le _)
  rw [hr, List.nil_append]
  exact fun r hr => (List.eq_of_mem_replicate hr) ▸ recvOf_fresh body h

end

/-- **Bounded attempts**: one send makes at most `MaxRetry + 1` attempts — for every
    server behaviour, body kind, policy and cancellation point. -/
theorem c17_attempts (p : RetryPolicy) (body : BodyKind) (cancelAt : Option Nat) (script : List Srv)
    (hmm : p.minWait ≤ p.maxWait) :
    (roundTrip p body cancelAt script 0 false [] []).recv.length ≤ p.maxRetry + 1 := by
  obtain ⟨n, hn, hr⟩ := roundTrip_recv p body cancelAt script 0 false [] [] (Nat.zero_le _)
  rw [hr, List.nil_append, List.length_replicate]
  exact Nat.zero_add n ▸ hn

/-- **Paced**: every pause lies within `[MinWait, MaxWait]` for every attempt number and
    every value the backoff function may return (negative, huge, anything). -/
theorem c17_clamp (p : RetryPolicy) (body : BodyKind) (cancelAt : Option Nat) (script : List Srv)
    (hmm : p.minWait ≤ p.maxWait) :
    ∀ d ∈ (roundTrip p body cancelAt script 0 false [] []).pauses, p.minWait ≤ d ∧ d ≤ p.maxWait :=
  fun d hd => (roundTrip_pauses p body cancelAt hmm script 0 false [] [] d hd).resolve_left (nomatch ·)

/-- **Whole body on every attempt**: within one send no attempt ever carries a truncated
    body (a one-shot body is sent once and never re-sent). -/
theorem c17_full_body (p : RetryPolicy) (body : BodyKind) (cancelAt : Option Nat) (script : List Srv)
    (hmm : p.minWait ≤ p.maxWait) :
    ∀ r ∈ (roundTrip p body cancelAt script 0 false [] []).recv, r ≠ .truncated :=
  roundTrip_full p body cancelAt script false fun _ => rfl

/-- **Non-retryable answers are returned at once.** -/
theorem c17_nonretryable_immediate (p : RetryPolicy) (body : BodyKind) (cancelAt : Option Nat)
    (s : Srv) (rest : List Srv) (h : retryable s = some false) :
    (roundTrip p body cancelAt (s :: rest) 0 false [] []).recv.length = 1 ∧
    (roundTrip p body cancelAt (s :: rest) 0 false [] []).outcome = .resp s ∧
    (roundTrip p body cancelAt (s :: rest) 0 false [] []).pauses = [] := by
  simp only [roundTrip]
  by_cases hm : 0 ≥ p.maxRetry <;> simp [hm, h]

/-- **Cancellation during a pause** ends the call with the context's error and no further
    attempt: cancelling the first pause leaves exactly one attempt. -/
theorem c17_cancel (p : RetryPolicy) (body : BodyKind) (s : Srv) (rest : List Srv)
    (hr : retryable s = some true) (hb : body ≠ .oneshot) (hm : 0 < p.maxRetry) :
    (roundTrip p body (some 0) (s :: rest) 0 false [] []).outcome = .ctxErr ∧
    (roundTrip p body (some 0) (s :: rest) 0 false [] []).recv.length = 1 := by
  have hm' : ¬ (0 ≥ p.maxRetry) := by omega
  simp [roundTrip, hm', hr, beq_false_of_ne hb]

/-- Non-vacuity: 503, 429, 200 with a replayable body under the default-like policy.  `roundTrip`
    does not read Retry-After (that is `retryAfterPause`). -/
example :
    let p : RetryPolicy := ⟨5, 200, 3000, fun i => 250 * 2 ^ i⟩
    let r := roundTrip p .replay none [.status 503 none, .status 429 (some 1), .status 200 none] 0 false [] []
    r.recv = [.full, .full, .full] ∧ r.pauses = [250, 500] ∧ r.outcome = .resp (.status 200 none) := by
  decide

/-- **The auth client never re-sends a body it cannot replay**: after a 401, a one-shot
    body makes the call stop with an error; with a replayable body the second send carries
    the whole body again. -/
theorem c17_auth_resend (p : RetryPolicy) (body : BodyKind) (script : List Srv)
    (hmm : p.minWait ≤ p.maxWait) :
    ∀ r ∈ (authDo p body script).1, r ≠ .truncated := by
  have h1 := c17_full_body p body none script hmm
  fun_cases authDo p body script
  case case1 | case3 => exact h1
  -- second send: the body is not one-shot
  case case2 =>
    exact List.forall_mem_append.2 ⟨h1, roundTrip_full p body none _ _ fun e => absurd (beq_iff_eq.2 e) ‹_›⟩

/-- **Every send of one `Client.Do` carries the whole body** — first send, cached-token
    retry after a scope change, and the send after the token fetch — for every cache
    state, request, credential, challenge sequence and body kind: no receiver ever sees a
    truncated body. -/
theorem c17_auth_cached_resend_full (c : ACache) (i : DoIn) (body : BodyKind) :
    ∀ x ∈ (authFlowB c i body).1, x.2 ≠ .truncated := by
  open List in
  have hf : recvFirst body ≠ .truncated := by cases body <;> nofun
  -- a later send is made only after a rewind, and then carries the whole body
  have hr : canRewind body = true → recvAgain body ≠ .truncated := by cases body <;> nofun
  have ha (o : Out) : ∀ x ∈ (if canRewind body then [(o, recvAgain body)] else []), x.2 ≠ Recv.truncated := by
    split
    · rename_i h; exact forall_mem_singleton.2 (hr h)
    · exact fun _ h => nomatch h
  -- so does a cached-token retry, if there is one: `Do` did not stop before it
  have hpre (first : Option Sec) (retry : List Out) (hgo : ¬(!retry.isEmpty && !canRewind body) = true) :
      ∀ x ∈ ((⟨i.host, first, .registry⟩, recvFirst body) : Out × Recv) :: retry.map (fun o => (o, recvAgain body)),
        x.2 ≠ Recv.truncated := by
    refine forall_mem_cons.2 ⟨hf, forall_mem_map.2 fun o ho => hr ?_⟩
    cases retry with
    | nil => cases ho
    | cons => simpa using hgo
  -- the paths of `authFlowB`: 1 final, 2 unknown, 3 basic with password, 4 basic without, 5 no rewind
  -- for the cached-token retry, 6 the retry ended it, 7 access token, 8 fetch failed, 9 fetched
  fun_cases authFlowB c i body
  case case1 | case2 | case4 | case5 => exact forall_mem_singleton.2 hf
  case case3 => exact forall_mem_cons.2 ⟨hf, ha _⟩
  case case6 => exact hpre _ _ ‹_›
  case case7 => exact forall_mem_append.2 ⟨hpre _ _ ‹_›, ha _⟩
  case case8 => exact forall_mem_append.2 ⟨hpre _ _ ‹_›, forall_mem_singleton.2 nofun⟩
  case case9 =>
    exact forall_mem_append.2 ⟨forall_mem_append.2 ⟨hpre _ _ ‹_›, forall_mem_singleton.2 nofun⟩, ha _⟩

/-- **A body that cannot be replayed is sent to the registry once**: with a one-shot body
    `Do` makes no second registry send, whatever the cache holds. -/
theorem c17_auth_oneshot_single_send (c : ACache) (i : DoIn) :
    ((authFlowB c i .oneshot).1.filter (fun x => x.1.kind == .registry)).length ≤ 1 := by
  -- where `Do` goes past the cached-token retry there was none, since it would have needed a rewind
  have hnone (retry : List Out) (hgo : ¬(!retry.isEmpty && !canRewind .oneshot) = true) : retry = [] := by
    simpa [canRewind] using hgo
  -- paths numbered as in `c17_auth_cached_resend_full`
  fun_cases authFlowB c i .oneshot
  case case1 | case2 | case3 | case4 | case5 => simp +zetaDelta [canRewind]
  -- and the only later send that needs no rewind is the token fetch
  case case6 | case7 | case8 | case9 => simp +zetaDelta [canRewind, hnone _ ‹_›]

/-- With a body that can be replayed (or none) the sends are exactly those of the flow the
    C16 theorems are about, and the cache ends up the same. -/
theorem c17_authFlowB_erases (c : ACache) (i : DoIn) (body : BodyKind) (hb : body ≠ .oneshot) :
    (authFlowB c i body).1.map (·.1) = (authFlow c i).1 ∧ (authFlowB c i body).2 = (authFlow c i).2 := by
  have hc : canRewind body = true := by cases body <;> first | rfl | exact absurd rfl hb
  -- every rewind succeeds, so on each path of `authFlow` the flow with a body takes the same one
  unfold authFlowB
  fun_cases authFlow c i <;> simp +zetaDelta [*, List.map_map, Function.comp_def]

/-- Non-vacuity: a cached bearer token under a changed scope key gives three registry
    sends and one token fetch, each registry send with the whole body. -/
example :
    let c : ACache := [(1, ⟨.bearer, [(7, .tok 1 3)]⟩)]
    let i : DoIn := ⟨1, 0, ⟨true, false, false⟩, false, .bearer 9 7, .bearer 9 7, some 4⟩
    (authFlowB c i .replay).1.map (·.2) = [.full, .full, .none, .full] := by
  decide

/-- **The backoff is total** (repair of F11): with the guard the jitter term is defined for
    every range; without it, a zero or negative range (jitter 0, or overflow at large
    attempt numbers) is a panic. -/
theorem c17_backoff_total (n r : Int) : (jitterTerm true n r).isSome = true := by
  unfold jitterTerm; split <;> simp

/-- The current source guards the call (fact re-extracted from `policy.go` on every run). -/
theorem c17_source_guards_jitter : Gen.backoffGuardsJitter = true := rfl

theorem c17_counterexample_unguarded : jitterTerm false 0 5 = none ∧ jitterTerm false (-3) 5 = none :=
  ⟨rfl, rfl⟩

/-- **`Retry-After` on a 429 is honoured**: every positive number of seconds, 1 included,
    decides the pause; every other status, and a header that is absent, not a number, zero or
    negative, leaves the exponential value. -/
theorem c17_retry_after_honoured (ra : Int) (expo : Int) (h : ra > 0) :
    retryAfterPause 429 (some ra) expo = ra * 1000000000 := by
  unfold retryAfterPause
  simp [h]

theorem c17_retry_after_otherwise (status : Nat) (ra : Option Int) (expo : Int)
    (h : status ≠ 429 ∨ ra = none ∨ ∃ v, ra = some v ∧ v ≤ 0) : retryAfterPause status ra expo = expo := by
  fun_cases retryAfterPause status ra expo
  -- the header decides on one path only, a 429 with a positive number of seconds, which `h` excludes
  case case1 hs v hv =>
    rcases h with h | h | ⟨_, hv', hle⟩
    · exact absurd hs h
    · cases h
    · cases hv'; omega
  all_goals rfl

/-- The seeded change C17/m10 (`> 1` instead of `> 0`) ignores `Retry-After: 1`. -/
example : retryAfterPause 429 (some 1) 250000000 = 1000000000 := by decide

end Oras.Props.C17
