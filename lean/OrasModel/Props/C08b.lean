/-
  C08, continued — predecessor relations after reopening, from `c07_reopen_exact`
  (`Props/C07b.lean`).
-/
import OrasModel.Props.C07b
namespace Oras.Props.C08
open Oras Oras.OciSt Oras.GMem

/-- **The reopened store has the same predecessor relation as the live one** whenever the
    live graph is exact for the stored manifests (C07) and every stored manifest is reached
    by some `index.json` entry — which holds for layouts this store wrote without pruning
    (every pushed manifest is an entry).  The second hypothesis is exactly what findings
    F13/F18 violate: a manifest no entry reaches is unknown after reopening. -/
theorem c08_reopen_predecessors (c : OciCfg) (st : OciSt) (rk : Node → Nat)
    (hrk : RankOK (succOf c st.blobs) rk) (fuel : Nat) (hfuel : ∀ e ∈ st.indexFile, rk e.1 < fuel)
    (hlive : ∀ k p, p ∈ st.graph.predecessors k ↔ (c.isMan p = true ∧ p ∈ st.blobs ∧ k ∈ c.succ p))
    (hlisted : ∀ p, c.isMan p = true → p ∈ st.blobs → ∃ e ∈ st.indexFile, ReachOf (succOf c st.blobs) e.1 p)
    (k p : Node) :
    p ∈ (st.reopen c fuel).graph.predecessors k ↔ p ∈ st.graph.predecessors k := by
  have h := Oras.Props.C07.c07_reopen_exact c st rk hrk fuel hfuel k p
  constructor
  · intro hp
    exact (hlive k p).mpr (h.1 hp)
  · intro hp
    obtain ⟨hm, hb, hk⟩ := (hlive k p).mp hp
    exact h.2 hm hb hk (hlisted p hm hb)

/-- F18 in the model: blob 0, manifest 1 over it, index 2 over the manifest; `index.json`
    lists only the (deleted) index's former sibling entries — here nothing — while the
    manifest's blob is still stored and the live graph still knows it.  The reopened store
    reports no predecessor for the blob: the hypothesis `hlisted` above is necessary. -/
theorem c08_counterexample_orphan_manifest :
    let c : OciCfg := { succ := fun n => if n = 1 then [0] else [], isMan := fun n => n == 1, subject := fun _ => none }
    let live : OciSt := { OciSt.empty with blobs := [0, 1], graph := GMem.empty.index 1 [0], indexFile := [] }
    live.graph.predecessors 0 = [1] ∧ (live.reopen c 5).graph.predecessors 0 = [] := by
  refine ⟨by rfl, by rfl⟩

end Oras.Props.C08
