/-
  C02, continued — progress of the copy under its concurrency limiter (`Model/CopyP.lean`).
  Property theorems only; lemmas in `Proofs/CopyP.lean`.  Same namespace as `Props/C02.lean`.
-/
import OrasModel.Proofs.CopyP
import OrasModel.Gen.Facts
namespace Oras.Props.C02
open Oras

/-- **Permit conservation**: in every state a run reaches, the permits left in the semaphore
    plus the tasks that hold one (between spawn and the dispatch of successors, and while
    copying) add up to the limit; nodes never touched stay idle. -/
theorem c02_permits_conserved (c : CopyCfg) (limit : Nat) (univ : List Node) (hnd : univ.Nodup)
    (ls : List PLabel) (hls : ∀ l ∈ ls, l.node ∈ univ) (s : PSt)
    (hr : prun? c (PSt.init limit) ls = some s) :
    s.avail + holders s univ = limit := by
  have := (prun_holders_measure hnd hls hr).1
  rw [holders_init] at this
  simpa [PSt.init] using this

/-- **Every run terminates**: a run over a universe of `N` nodes has at most `4·N` steps
    (every step moves one node forward in idle → claimed → waiting → copying → done/failed). -/
theorem c02_terminates (c : CopyCfg) (limit : Nat) (univ : List Node) (hnd : univ.Nodup)
    (ls : List PLabel) (hls : ∀ l ∈ ls, l.node ∈ univ) (s : PSt)
    (hr : prun? c (PSt.init limit) ls = some s) :
    ls.length ≤ 4 * univ.length := by
  have h1 := (prun_holders_measure hnd hls hr).2
  rw [measure_init] at h1
  have h2 := measure_le s univ
  omega

/-- **No deadlock.**  With a limit of at least one permit, in every state a run reaches in
    which nothing has failed, as long as some node is not done a step other than a failure is
    enabled: a task that holds a permit can always finish what it holds it for, and when no
    task holds one a permit is free for the deepest unfinished node.  (`rk` witnesses that the
    graph is acyclic.)  With `c02_terminates`: without faults, every maximal run ends with
    every started node done. -/
theorem c02_no_deadlock (c : CopyCfg) (rk : Node → Nat) (hrk : ∀ n k, k ∈ c.kids n → rk k < rk n)
    (limit : Nat) (hlimit : 0 < limit) (univ : List Node) (hnd : univ.Nodup)
    (ls : List PLabel) (hls : ∀ l ∈ ls, l.node ∈ univ) (s : PSt)
    (hr : prun? c (PSt.init limit) ls = some s)
    (hnofail : ∀ m, s.st m ≠ .failed) (n : Node) (hn : s.st n ≠ .done) :
    ∃ l : PLabel, l.isFail = false ∧ (pstep? c s l).isSome = true := by
  refine enabled_of_unfinished c rk hrk s (fun hnone => ?_) hnofail n hn
  -- nobody holds a permit: all of them are free
  have := c02_permits_conserved c limit univ hnd ls hls s hr
  rw [holders_zero s univ fun m _ => hnone m] at this
  omega

/-- **Source facts** (regenerated): `copyGraph`'s task gives its permit back right before it
    dispatches its successors and takes one again after waiting for them — `region.End()`,
    `syncutil.Go(…)`, `region.Start()` in this order inside `if len(successors) != 0` — and
    touches its region nowhere else, so a leaf keeps its permit from spawn to return.  This
    is the shape `Model/CopyP.lean` gives `existsF` and `ready`. -/
theorem c02_source_facts :
    Gen.copyGraphDispatchCalls = ["region.End", "syncutil.Go", "region.Start"] ∧
    Gen.copyGraphRegionCallsElsewhere = 0 :=
  ⟨rfl, rfl⟩

/-- Non-vacuity: with one permit, a parent 0 over two leaves 1 and 2 runs to completion (the
    parent gives its permit back while it waits), and the hypotheses of `c02_no_deadlock` hold
    half way — parent waiting, leaf 1 done, leaf 2 idle, the permit free. -/
example :
    let c : CopyCfg := { kids := fun n => if n = 0 then [1, 2] else [], dkey := id, roots := [0] }
    let full : List PLabel := [.claim 0, .existsF 0, .claim 1, .existsF 1, .push 1, .claim 2, .existsF 2, .push 2,
      .ready 0, .push 0]
    ((prun? c (PSt.init 1) full).map fun s => ([0, 1, 2].map s.st, s.avail)) = some ([.done, .done, .done], 1) ∧
    ((prun? c (PSt.init 1) (full.take 5)).map fun s => ([0, 1, 2].map s.st, s.avail)) =
      some ([.waiting, .done, .idle], 1) := by
  decide

end Oras.Props.C02
