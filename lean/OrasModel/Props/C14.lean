/-
  C14 — Client-maintained referrers indexes lose no update under concurrency.
  This file: the pure update function (`Model/Referrers.lean`).  `C14b`: the batching protocol
  `syncutil.Merge`; `C14c`: the end-to-end no-lost-update claim; `C14d`: the sequential flow under
  faults; `C14e`: the capability cell.
-/
import OrasModel.Proofs.Referrers
namespace Oras.Props.C14
open Oras

/-- **The updated index has no duplicate and no empty entry** — whatever the old index
    contained (duplicates, empty descriptors) and whatever the batch of changes. -/
theorem c14_apply_clean (refs : List RDesc) (changes : List RChange)
    (hc : ∀ c ∈ changes, match c with | .add d => d.key ≠ 0 | .remove _ => True)
    (res : List RDesc) (h : applyReferrerChanges refs changes = some res) :
    NoDupKeys res ∧ NoEmpty res := by
  rw [applyReferrerChanges_some h]
  exact List.foldlRecOn (motive := Clean) changes applyChange (dedupRefs_inv [] refs ⟨List.nodup_nil, nofun⟩)
    fun cur hcur c hmem => applyChange_inv cur c hcur (hc c hmem)

/-- **One change does what it says** on the key set: after `add d`, `d.key` is listed and
    nothing else changes; after `remove d`, `d.key` is gone and nothing else changes. -/
theorem c14_change_keys (cur : List RDesc) (c : RChange) (k : Nat) :
    (applyChange cur c).any (·.key = k) =
      match c with
      | .add d => decide (k = d.key) || cur.any (·.key = k)
      | .remove d => !decide (k = d.key) && cur.any (·.key = k) := by
  show hasKey (applyChange cur c) k = _
  rw [hasKey_applyChange]
  -- the same, with the `if` written as a Boolean
  cases c with
  | add d => by_cases e : k = d.key <;> simp [RChange.desc, RChange.isAdd, e]
  | remove d => by_cases e : k = d.key <;> simp [RChange.desc, RChange.isAdd, e]

/-- **Surviving entries keep artifact type and annotations**: a change never alters the
    payload of an entry it does not remove. -/
theorem c14_payload_kept (cur : List RDesc) (c : RChange) (r : RDesc) (hr : r ∈ cur)
    (hk : match c with | .remove d => d.key ≠ r.key | .add _ => True) : r ∈ applyChange cur c := by
  cases c with
  | add d =>
    simp only [applyChange]
    split
    · exact hr
    · exact List.mem_append_left _ hr
  | remove d =>
    simp only [applyChange, List.mem_filter, ne_eq, decide_not, Bool.not_eq_eq_eq_not, Bool.not_true,
      decide_eq_false_iff_not]
    exact ⟨hr, fun e => hk e.symm⟩

/-- **"No update" is reported only when nothing would change**: the old index was clean
    (no empty entry, no duplicate) and the resulting key set is the old one. -/
theorem c14_no_update_iff_unchanged (refs : List RDesc) (changes : List RChange)
    (h : applyReferrerChanges refs changes = none) :
    (dedupRefs [] refs).length = refs.length ∧
    (changes.foldl applyChange (dedupRefs [] refs)).length = refs.length ∧
    ∀ r ∈ refs, (changes.foldl applyChange (dedupRefs [] refs)).any (·.key = r.key) = true :=
  applyReferrerChanges_eq_none.mp h

/-- Non-vacuity: a dirty old index (duplicate, empty entry), an add and a remove. -/
example :
    applyReferrerChanges [⟨1, 10⟩, ⟨1, 11⟩, ⟨0, 0⟩, ⟨2, 20⟩] [.add ⟨3, 30⟩, .remove ⟨2, 0⟩] = some [⟨1, 10⟩, ⟨3, 30⟩] ∧
    applyReferrerChanges [⟨1, 10⟩, ⟨2, 20⟩] [.add ⟨1, 99⟩] = none ∧
    applyReferrerChanges [⟨1, 10⟩] [.remove ⟨1, 0⟩] = some [] := by
  decide

end Oras.Props.C14
