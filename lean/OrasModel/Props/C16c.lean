/-
  C16, continued — the single-context cache flavour (`Model/AuthFb.lean`): the same three
  theorems as for the shared cache, from the same three of `Proofs/AuthFlow.lean`.  Same
  namespace as `Props/C16.lean`.
-/
import OrasModel.Proofs.AuthFlow
namespace Oras.Props.C16
open Oras

/-- **No cross-host secrets, one `Do`, single-context cache**: with a cache whose tokens sit under their own
    hosts, every request `Do` emits that carries a secret carries a secret of the request's
    own registry host, addressed to that host — or carries that host's password / refresh
    token to the realm that host's own challenge advertised.  The network's replies are
    arbitrary. -/
theorem c16_single_no_cross_host (c : ACache) (hc : CacheInv c) (i : DoIn) :
    (∀ o ∈ (authFlowF c i).1, OutOk i o) ∧ CacheInv (authFlowF c i).2 :=
  authFlowF_eq ▸ single.flow_ok c i single_hostKeyed hc

/-- **No cross-host secrets, every history, single-context cache**: any sequence of `Do` calls to any hosts,
    sharing one cache that starts empty, with arbitrary replies: every emitted request is
    fine, and the cache invariant holds throughout. -/
theorem c16_single_history (calls : List DoIn) :
    ∀ (c : ACache), CacheInv c →
      let run := calls.foldl (fun (acc : List (DoIn × Out) × ACache) i =>
        let r := authFlowF acc.2 i
        (acc.1 ++ r.1.map (fun o => (i, o)), r.2)) ([], c)
      (∀ io ∈ run.1, OutOk io.1 io.2) ∧ CacheInv run.2 :=
  authFlowF_eq ▸ fun c hc => single.history_ok c single_hostKeyed calls hc

/-- **Bounded, single-context cache**: at most three sends to the registry and one token fetch per `Do`. -/
theorem c16_single_bounded (c : ACache) (i : DoIn) :
    ((authFlowF c i).1.filter (·.kind = .registry)).length ≤ 3 ∧
    ((authFlowF c i).1.filter (·.kind = .tokenFetch)).length ≤ 1 :=
  authFlowF_eq ▸ single.flow_bounded c i

/-- Non-vacuity: after a Bearer flow the token sits under the scope key and under the
    per-registry entry; a later request with other scope hints gets it on its first send —
    the behaviour that sets this cache apart — and still only to its own host. -/
example :
    let i1 : DoIn := ⟨1, 5, ⟨true, false, false⟩, false, .bearer 9 5, .final, some 77⟩
    let r1 := authFlowF [] i1
    let i2 : DoIn := ⟨1, 6, ⟨true, false, false⟩, false, .final, .final, none⟩
    let i3 : DoIn := ⟨2, 6, ⟨true, false, false⟩, false, .final, .final, none⟩
    r1.1 = [⟨1, none, .registry⟩, ⟨9, some (.pw 1), .tokenFetch⟩, ⟨1, some (.tok 1 77), .registry⟩] ∧
    (authFlowF r1.2 i2).1 = [⟨1, some (.tok 1 77), .registry⟩] ∧
    (authFlow r1.2 i2).1 = [⟨1, none, .registry⟩] ∧
    (authFlowF r1.2 i3).1 = [⟨2, none, .registry⟩] := by
  decide

end Oras.Props.C16
