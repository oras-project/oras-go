/-
  C06 — Built-in Targets behave as a content map plus a reference → descriptor map: through
  the abstraction `absOf` the OCI-layout store model (`Model/Oci.lean`) refines the abstract
  store (`Spec/AbsStore.lean`) operation by operation.
-/
import OrasModel.Proofs.Oci
import OrasModel.Spec.AbsStore

namespace Oras.Abs

theorem push_content (a : Abs) (n m : Node) :
    (a.push n).1.content m = (decide (m = n) || a.content m) := by
  unfold push
  split
  · next h => by_cases e : m = n <;> simp [e, h]
  · by_cases e : m = n <;> simp [e]

theorem push_tags (a : Abs) (n : Node) : (a.push n).1.tags = a.tags := by
  unfold push; split <;> rfl

end Oras.Abs

namespace Oras.Props.C06
open Oras Oras.OciSt

/-- Abstraction: which blobs have a file, and what each reference *name* resolves to. -/
def absOf (st : OciSt) : Abs :=
  { content := fun n => decide (n ∈ st.blobs), tags := fun nm => st.lookupRef (.tag nm) }

def errAbs : OErr → AErr
  | .alreadyExists => .alreadyExists | .notFound => .notFound | .missingRef => .missingRef
  | .invalidRef => .notFound | .hang => .notFound

def resAbs : Except OErr Unit → Except AErr Unit
  | .ok u => .ok u | .error e => .error (errAbs e)

theorem abs_ext (a b : Abs) (h1 : ∀ n, a.content n = b.content n) (h2 : ∀ k, a.tags k = b.tags k) : a = b := by
  cases a; cases b; simp only [Abs.mk.injEq]; exact ⟨funext h1, funext h2⟩

/-- **Push refines**: pushing present content is refused with already-exists and changes
    nothing; pushing absent (verified) content makes exactly that content present and
    leaves every reference name as it was. -/
theorem c06_push_refines (c : OciCfg) (st : OciSt) (n : Node) :
    absOf (st.push c n).1 = ((absOf st).push n).1 ∧ resAbs (st.push c n).2 = ((absOf st).push n).2 := by
  constructor
  · apply abs_ext
    · intro m
      simp only [Abs.push_content, absOf, mem_blobs_push, Bool.decide_or]
    · intro k
      rw [Abs.push_tags]
      exact lookupRef_push_tag c st n k
  · rw [push_snd]
    unfold Abs.push absOf
    by_cases h : n ∈ st.blobs <;> simp [h, resAbs, errAbs]

/-- **Tag refines** (reference names): the name then resolves to the descriptor just
    tagged, every other name is untouched, content is untouched; tagging absent content
    is not-found and changes nothing; the empty reference is rejected. -/
theorem c06_tag_refines (st : OciSt) (n : Node) (ann : Nat) (name : Option Nat) :
    absOf (st.tag n ann (name.map .tag)).1 = ((absOf st).tag n ann name).1 ∧
    resAbs (st.tag n ann (name.map .tag)).2 = ((absOf st).tag n ann name).2 := by
  unfold OciSt.tag Abs.tag
  cases name with
  | none => exact ⟨rfl, rfl⟩
  | some nm =>
    by_cases h : n ∈ st.blobs
    · simp only [Option.map, h, if_true, absOf, decide_true, resAbs, and_true]
      apply abs_ext
      · intro m; simp only [blobs_tagInternal]
      · intro k; simp [lookupRef_tagInternal]
    · simp [h, absOf, resAbs, errAbs]

/-- **Resolve refines** (reference names): the descriptor most recently tagged, or not-found. -/
theorem c06_resolve_refines (st : OciSt) (name : Option Nat) :
    (match st.resolve (name.map .tag) with
      | .ok (.full n a) => Except.ok (n, a)
      | .ok _ => .error AErr.notFound
      | .error e => .error (errAbs e)) = (absOf st).resolve name := by
  unfold OciSt.resolve Abs.resolve
  cases name with
  | none => simp [errAbs]
  | some nm =>
    simp only [Option.map, absOf]
    cases h : st.lookupRef (.tag nm) with
    | none => simp [errAbs]
    | some r => obtain ⟨n, a⟩ := r; simp

/-- **Untag refines**. -/
theorem c06_untag_refines (st : OciSt) (name : Option Nat) :
    absOf (st.untag (name.map .tag)).1 = ((absOf st).untag name).1 ∧
    resAbs (st.untag (name.map .tag)).2 = ((absOf st).untag name).2 := by
  cases name with
  | none => exact ⟨rfl, rfl⟩
  | some nm =>
    have habs : (absOf st).tags nm = st.lookupRef (.tag nm) := rfl
    cases h : st.lookupRef (.tag nm) with
    | none => simp [OciSt.untag, Abs.untag, h, habs, resAbs, errAbs]
    | some r =>
      simp only [OciSt.untag, Abs.untag, Option.map, h, habs, resAbs, and_true]
      apply abs_ext
      · intro m; simp [absOf]
      · intro k; simp [absOf, lookupRef_resolverUntag]

/-- **A refused or failed operation changes nothing** (push, tag, untag). -/
theorem c06_failed_op_is_noop (c : OciCfg) (st : OciSt) (n : Node) (ann : Nat) (k : Option RefKey) :
    ((st.push c n).2 ≠ .ok () → (st.push c n).1 = st) ∧
    ((st.tag n ann k).2 ≠ .ok () → (st.tag n ann k).1 = st) ∧
    ((st.untag k).2 ≠ .ok () → (st.untag k).1 = st) := by
  refine ⟨?_, ?_, ?_⟩
  · unfold OciSt.push
    by_cases h : n ∈ st.blobs
    · simp [h]
    · simp only [h, if_false]
      split <;> simp
  · unfold OciSt.tag
    cases k with
    | none => simp
    | some k => by_cases h : n ∈ st.blobs <;> simp [h]
  · unfold OciSt.untag
    cases k with
    | none => simp
    | some k =>
      cases h : st.lookupRef k with
      | none => simp [h]
      | some r => cases k <;> simp [h]

/-- Fetch / Exists answer from the content map alone; after a successful push, fetch
    returns exactly the pushed content. -/
theorem c06_fetch_after_push (c : OciCfg) (st : OciSt) (n : Node) (h : (st.push c n).2 = .ok ()) :
    n ∈ (st.push c n).1.blobs ∧ ∀ m, m ≠ n → (m ∈ (st.push c n).1.blobs ↔ m ∈ st.blobs) := by
  simp only [mem_blobs_push, true_or, true_and]
  intro m hm; simp [hm]

/-- Spec-level commutation: pushes commute, so the state after concurrent pushes quiesce
    does not depend on their order. -/
theorem c06_push_commute (a : Abs) (m n : Node) :
    ((a.push m).1.push n).1 = ((a.push n).1.push m).1 := by
  apply abs_ext
  · intro x; simp only [Abs.push_content, Bool.or_left_comm]
  · intro k; simp only [Abs.push_tags]

/-- Non-vacuity: a short history on the model. -/
example :
    let c : OciCfg := { succ := fun n => if n = 2 then [0, 1] else [], isMan := fun n => n == 2, subject := fun _ => none }
    let s1 := (OciSt.empty.push c 0).1
    let s2 := (s1.push c 2).1
    let s3 := (s2.tag 2 1 (some (.tag 7))).1
    (s3.resolve (some (.tag 7)) = .ok (.full 2 1)) ∧ (s3.push c 2).2 = .error .alreadyExists ∧
    (s3.tag 5 0 (some (.tag 1))).2 = .error .notFound ∧ s3.resolve (some (.dig 2)) = .ok (.plain 2) := by
  refine ⟨by rfl, by rfl, by rfl, by rfl⟩

end Oras.Props.C06
