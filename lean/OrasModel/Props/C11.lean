/-
  C11 — The file store never writes outside its working directory by default.
  The lexical layer (`resolveWritePath`): cleaning an absolute path establishes `NoDots`, and `Rel`
  to such a path stays inside exactly below a prefix (`rel_inside_iff`).  What the entries of an
  archive touch in a directory that holds links is in `Props/C11b.lean`.
-/
import OrasModel.Model.PathLex
namespace Oras.Props.C11
open Oras

/-- A cleaned absolute path has no `..`, `.` or empty element. -/
def NoDots (l : List Seg) : Prop := ∀ s ∈ l, s ≠ dotdot ∧ s ≠ [] ∧ s ≠ ['.']

theorem cleanStep_nodots (stack : List Seg) (seg : Seg) (h : NoDots stack) :
    NoDots (cleanStep true stack seg) := by
  unfold cleanStep
  split
  · exact h
  split
  · -- `..` pops an element; the top of a stack without `..` is not `..`
    split
    · next top rest =>
      rw [if_neg (h top List.mem_cons_self).1]
      exact (List.forall_mem_cons.mp h).2
    · exact nofun
  · next h1 h2 => exact List.forall_mem_cons.mpr ⟨⟨h2, fun e => h1 (.inl e), fun e => h1 (.inr e)⟩, h⟩

theorem cleanSegs_nodots (segs : List Seg) : NoDots (cleanSegs true segs) := fun s hs =>
  List.foldlRecOn (motive := NoDots) segs (cleanStep true) (fun _ h => absurd h List.not_mem_nil)
    (fun stack h seg _ => cleanStep_nodots stack seg h) s (List.mem_reverse.mp hs)

theorem rel_inside_iff (base target : List Seg) (ht : NoDots target) :
    (relSegs base target).head? ≠ some dotdot ↔ base <+: target := by
  -- the equations of `relSegs`: an empty base, an empty target, equal heads, different heads
  fun_induction relSegs base target
  case case1 ts =>
    refine iff_of_true (fun e => ?_) List.nil_prefix
    cases ts with
    | nil => cases e
    | cons t ts => exact (ht t List.mem_cons_self).1 (Option.some.inj e)
  case case2 bs hne =>
    cases bs with
    | nil => exact (hne rfl).elim
    | cons b bs => exact iff_of_false (fun h => h rfl) fun h => nomatch List.prefix_nil.mp h
  case case3 bs t ts ih =>
    rw [ih (List.forall_mem_cons.mp ht).2, List.cons_prefix_cons]
    exact (and_iff_right rfl).symm
  case case4 b bs t ts hbt =>
    exact iff_of_false (fun h => h rfl) fun h => hbt (List.cons_prefix_cons.mp h).1

/-- **Every accepted title resolves inside the working directory**: for every title
    annotation (relative, absolute, with `..`, `.`, empty elements), `resolveWritePath`
    either reports path traversal or returns a cleaned absolute path that has the working
    directory as a prefix — and it accepts exactly those. -/
theorem c11_name_contained (wd : List Seg) (name : List Char) :
    (∀ p, resolveWritePath wd name = some p → wd <+: p ∧ NoDots p) ∧
    (resolveWritePath wd name = none →
      ¬ wd <+: (if isAbsPath name then cleanSegs true (splitSlash name)
                else cleanSegs true (wd ++ splitSlash name))) := by
  unfold resolveWritePath
  simp only
  generalize ht : (if isAbsPath name = true then cleanSegs true (splitSlash name)
    else cleanSegs true (wd ++ splitSlash name)) = target
  have hnd : NoDots target := by
    rw [← ht]; split <;> exact cleanSegs_nodots _
  have hiff := rel_inside_iff wd target hnd
  split
  · next h => exact ⟨nofun, fun _ hpre => hiff.mpr hpre h⟩
  · next h => exact ⟨fun p hp => by cases hp; exact ⟨hiff.mp h, hnd⟩, nofun⟩

/-- Non-vacuity. -/
example :
    let wd : List Seg := ["r".toList, "wd".toList]
    resolveWritePath wd "a/../b".toList = some ["r".toList, "wd".toList, "b".toList] ∧
    resolveWritePath wd "a/../../x".toList = none ∧
    resolveWritePath wd "/r/wd/in".toList = some ["r".toList, "wd".toList, "in".toList] ∧
    resolveWritePath wd "/r/other".toList = none ∧
    cleanPath "a//b/./../c/".toList = "a/c".toList ∧ cleanPath "/../x".toList = "/x".toList := by
  decide +kernel

end Oras.Props.C11
