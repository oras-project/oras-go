/-
  C10 — A process crash never leaves an OCI layout unreadable, corrupt or half-updated
  (`Model/CrashFS.lean`).  The theorems on scripts rest on `valid_step`: a safe system call keeps
  the layout valid.  `callsOf` / `pos` / `before` read the call order of the source off `Gen/Facts.lean`.
-/
import OrasModel.Model.CrashFS
import OrasModel.Gen.Facts
namespace Oras.Props.C10
open Oras

theorem valid_step (L : Layout) (s : Sys) (rest : List Sys) (hv : L.Valid) (hs : Safe L (s :: rest)) :
    (s.apply L).Valid ∧ Safe (s.apply L) rest := by
  obtain ⟨idx, hidx, hall⟩ := hv
  simp only [Safe] at hs
  obtain ⟨h1, h2⟩ := hs
  refine ⟨?_, h2⟩
  cases s with
  | createTemp | writeTemp | chmodTemp | truncIndexTmp | writeIndexTmp _ => exact ⟨idx, hidx, hall⟩
  | truncIndex | writeIndex _ => exact h1.elim
  | renameBlob n => exact ⟨idx, hidx, fun e he => List.mem_cons_of_mem _ (hall e he)⟩
  | removeBlob n =>
    refine ⟨idx, hidx, fun e he => ?_⟩
    simp only [Sys.apply, List.mem_filter, ne_eq, decide_not, Bool.not_eq_eq_eq_not, Bool.not_true,
      decide_eq_false_iff_not]
    exact ⟨hall e he, h1.1 idx hidx e he⟩
  | renameIndex =>
    obtain ⟨i, hi, hiall⟩ := h1
    exact ⟨i, by simp [Sys.apply, hi], hiall⟩

/-- **Crash consistency**: from a valid layout, after *every prefix* of a safe script —
    i.e. whatever system call the process is killed before — the layout can be opened and
    every index entry names an existing (complete, hash-named) blob. -/
theorem c10_crash_consistent (script : List Sys) : ∀ (L : Layout), L.Valid → Safe L script →
    ∀ k, (runSys L (script.take k)).Valid := by
  induction script with
  | nil => intro L hv _ k; simpa [runSys] using hv
  | cons s rest ih =>
    intro L hv hs k
    cases k with
    | zero => simpa [runSys] using hv
    | succ k =>
      obtain ⟨hv', hs'⟩ := valid_step L s rest hv hs
      simp only [List.take_succ_cons, runSys, List.foldl_cons]
      exact ih (s.apply L) hv' hs' k

/-- **Old or new, never half**: at every crash point of an atomic index save, `index.json`
    is the old document or the new one. -/
theorem c10_index_old_or_new (L : Layout) (idx' : Idx) (k : Nat) :
    (runSys L ((compileSave true idx').take k)).index = L.index ∨
    (runSys L ((compileSave true idx').take k)).index = some idx' := by
  unfold compileSave
  simp only [if_true]
  match k with
  | 0 => left; rfl
  | 1 => left; rfl
  | 2 => left; rfl
  | k + 3 => right; simp [runSys, Sys.apply]

/-- The atomic save of an index whose entries all have blobs is a safe script. -/
theorem c10_save_safe (L : Layout) (idx' : Idx) (h : ∀ e ∈ idx', e.2 ∈ L.blobs) :
    Safe L (compileSave true idx') := by
  simp only [compileSave, if_true, Safe, Sys.apply, and_true, true_and]
  exact ⟨h, idx', rfl, h⟩

/-- Pushing a manifest (blob first, then the index that lists it) is safe. -/
theorem c10_push_manifest_safe (L : Layout) (n : Node) (idx' : Idx)
    (h : ∀ e ∈ idx', e.2 = n ∨ e.2 ∈ L.blobs) : Safe L (compilePushManifest true n idx') := by
  have h' : ∀ e ∈ idx', e.2 ∈ n :: L.blobs := by
    intro e he
    rcases h e he with h1 | h1
    · rw [h1]; exact List.mem_cons_self
    · exact List.mem_cons_of_mem _ h1
  simp only [compilePushManifest, compilePushBlob, compileSave, if_true, List.cons_append,
    List.nil_append, Safe, Sys.apply, and_true, true_and]
  exact ⟨h', idx', rfl, h'⟩

/-- Deleting one node — save an index that no longer lists it, *then* remove the blob — is
    safe; so is the whole auto-GC cascade, one node after the other. -/
theorem c10_delete_one_safe (L : Layout) (n : Node) (idx' : Idx)
    (hblobs : ∀ e ∈ idx', e.2 ∈ L.blobs) (hnot : ∀ e ∈ idx', e.2 ≠ n) :
    Safe L (compileDeleteOne true (some idx') n) := by
  simp only [compileDeleteOne, compileSave, if_true, List.cons_append, List.nil_append, Safe,
    Sys.apply, and_true, true_and]
  refine ⟨hblobs, ⟨idx', rfl, hblobs⟩, ?_, ?_⟩
  · intro idx hidx e he
    injection hidx with hidx
    subst hidx
    exact hnot e he
  · intro idx hidx; cases hidx

/-- Removing a blob that the current index does not list (an untagged dangling node, or a
    blob after its index entry was dropped) is safe. -/
theorem c10_remove_unlisted_safe (L : Layout) (n : Node)
    (h1 : ∀ idx, L.index = some idx → ∀ e ∈ idx, e.2 ≠ n) (h2 : L.indexTmp = none) :
    Safe L (compileDeleteOne true none n) := by
  simp only [compileDeleteOne, List.nil_append, Safe, and_true]
  exact ⟨h1, by intro idx hidx; rw [h2] at hidx; cases hidx⟩

/-- **The in-place write is not crash-safe** (finding F4, repaired): killed after the
    truncation, `index.json` cannot be decoded. -/
theorem c10_counterexample_truncated_index :
    ¬ (runSys ⟨[1], some [(some 0, 1)], none⟩ ((compileSave false [(some 0, 1)]).take 1)).Valid := by
  intro ⟨idx, h, _⟩
  simp [runSys, compileSave, Sys.apply] at h

def callsOf (fn : String) : List String := (Gen.ociCalls.lookup fn).getD []

/-- position of the first occurrence -/
def pos (l : List String) (x : String) : Option Nat :=
  let rec go : List String → Nat → Option Nat
    | [], _ => none
    | y :: ys, i => if y == x then some i else go ys (i + 1)
  go l 0

def before (fn a b : String) : Bool :=
  match pos (callsOf fn) a, pos (callsOf fn) b with
  | some i, some j => i < j
  | _, _ => false

/-- `writeIndexFile` writes a temporary file and renames it; `Store.delete` saves the index
    before deleting the blob; `GC` saves the index before removing files; `Storage.Push`
    ingests (verify + chmod) before the rename that makes the blob visible. -/
theorem c10_sequences_match :
    before "Store.writeIndexFile" "os.WriteFile" "os.Rename" = true ∧
    before "Store.delete" "s.saveIndex" "s.storage.Delete" = true ∧
    before "Store.GC" "s.saveIndex" "os.Remove" = true ∧
    before "Storage.Push" "s.ingest" "os.Rename" = true ∧
    before "Storage.ingest" "ioutil.CopyBuffer" "os.Chmod" = true := by
  decide +kernel

/-- Non-vacuity: a cascade delete script on a concrete layout, every prefix valid. -/
example :
    let L : Layout := ⟨[1, 2, 3], some [(some 0, 1), (none, 2)], none⟩
    let script := compileDeleteOne true (some [(none, 2)]) 1 ++ compileDeleteOne true (some []) 2
    (List.range (script.length + 1)).all (fun k =>
      match (runSys L (script.take k)).index with
      | some idx => idx.all (fun e => (runSys L (script.take k)).blobs.contains e.2)
      | none => false) = true := by
  decide

end Oras.Props.C10
