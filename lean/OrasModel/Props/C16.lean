/-
  C16 — The auth client keeps each registry's secrets and tokens to that registry.
  Model: `Model/Auth.lean` (request flow + cache), `Model/Scopes.lean` (CleanScopes).  The flow
  theorems are those of `Proofs/AuthFlow.lean` at the shared cache.
-/
import OrasModel.Proofs.AuthFlow
import OrasModel.Proofs.Canon
namespace Oras.Props.C16
open Oras

/-- **No cross-host secrets, one `Do`**: with a cache whose tokens sit under their own
    hosts, every request `Do` emits that carries a secret carries a secret of the request's
    own registry host, addressed to that host — or carries that host's password / refresh
    token to the realm that host's own challenge advertised.  The network's replies are
    arbitrary. -/
theorem c16_no_cross_host (c : ACache) (hc : CacheInv c) (i : DoIn) :
    (∀ o ∈ (authFlow c i).1, OutOk i o) ∧ CacheInv (authFlow c i).2 :=
  authFlow_eq ▸ shared.flow_ok c i shared_hostKeyed hc

/-- **No cross-host secrets, every history**: any sequence of `Do` calls to any hosts,
    sharing one cache that starts empty, with arbitrary replies: every emitted request is
    fine, and the cache invariant holds throughout. -/
theorem c16_history (calls : List DoIn) :
    ∀ (c : ACache), CacheInv c →
      let run := calls.foldl (fun (acc : List (DoIn × Out) × ACache) i =>
        let r := authFlow acc.2 i
        (acc.1 ++ r.1.map (fun o => (i, o)), r.2)) ([], c)
      (∀ io ∈ run.1, OutOk io.1 io.2) ∧ CacheInv run.2 :=
  authFlow_eq ▸ fun c hc => shared.history_ok c shared_hostKeyed calls hc

/-- **Bounded**: at most three sends to the registry and one token fetch per `Do`. -/
theorem c16_bounded (c : ACache) (i : DoIn) :
    ((authFlow c i).1.filter (·.kind = .registry)).length ≤ 3 ∧
    ((authFlow c i).1.filter (·.kind = .tokenFetch)).length ≤ 1 :=
  authFlow_eq ▸ shared.flow_bounded c i

theorem c16_cache_inv_init : CacheInv [] := by intro p hp; cases hp

/-- Non-vacuity: a Bearer flow with a foreign realm, then a second call that reuses the
    cached token only for the same host. -/
example :
    let i1 : DoIn := ⟨1, 5, ⟨true, false, false⟩, false, .bearer 9 5, .final, some 77⟩
    let r1 := authFlow [] i1
    let i2 : DoIn := ⟨2, 5, ⟨true, false, false⟩, false, .final, .final, none⟩
    let i3 : DoIn := ⟨1, 5, ⟨true, false, false⟩, false, .final, .final, none⟩
    r1.1 = [⟨1, none, .registry⟩, ⟨9, some (.pw 1), .tokenFetch⟩, ⟨1, some (.tok 1 77), .registry⟩] ∧
    (authFlow r1.2 i2).1 = [⟨2, none, .registry⟩] ∧
    (authFlow r1.2 i3).1 = [⟨1, some (.tok 1 77), .registry⟩] := by
  decide

theorem mem_absorb (gs : List Grant) (g : Grant) :
    g ∈ absorb gs ↔ (g ∈ gs ∧ (g.2.2 = star ∨ (g.1, g.2.1, star) ∉ gs)) := by
  simp [absorb]

/-- **Exactly the granted set, wildcard absorbed**: a permission is in the canonical scope
    set iff it was given and is not absorbed by a wildcard on the same resource. -/
theorem c16_scopes_grants (gs : List Grant) (g : Grant) :
    g ∈ cleanGrants gs ↔ (g ∈ gs ∧ (g.2.2 = star ∨ (g.1, g.2.1, star) ∉ gs)) := by
  unfold cleanGrants
  rw [mem_canon, mem_absorb]

/-- **Order-insensitive and duplicate-insensitive**: two scope lists granting the same set
    (any permutation, any repetition) have the same canonical form. -/
theorem c16_scopes_canonical (gs₁ gs₂ : List Grant) (h : ∀ g, g ∈ gs₁ ↔ g ∈ gs₂) :
    cleanGrants gs₁ = cleanGrants gs₂ := by
  unfold cleanGrants
  apply canon_congr grantLt_strictTotal
  intro g
  rw [mem_absorb, mem_absorb, h g, h (g.1, g.2.1, star)]

theorem c16_scopes_perm (gs₁ gs₂ : List Grant) (h : gs₁.Perm gs₂) : cleanGrants gs₁ = cleanGrants gs₂ :=
  c16_scopes_canonical gs₁ gs₂ (fun _ => h.mem_iff)

/-- **Idempotent**. -/
theorem c16_scopes_idempotent (gs : List Grant) : cleanGrants (cleanGrants gs) = cleanGrants gs := by
  refine canon_congr grantLt_strictTotal _ _ fun g => ?_
  rw [mem_absorb, mem_absorb, c16_scopes_grants]
  -- a wildcard that survives cleaning was given
  exact ⟨fun h => h.1, fun h => ⟨h, h.2.imp_right fun h2 hin => h2 ((c16_scopes_grants gs _).mp hin).1⟩⟩

/-- **Sorted and duplicate-free**. -/
theorem c16_scopes_sorted (gs : List Grant) : SSorted grantLt (cleanGrants gs) :=
  ssorted_canon grantLt_strictTotal _

/-- **Wildcard-absorbing**: once `*` is granted on a resource, it is the only action listed. -/
theorem c16_scopes_wildcard (gs : List Grant) (t n a : Str) (hs : (t, n, star) ∈ gs)
    (ha : (t, n, a) ∈ cleanGrants gs) : a = star :=
  ((c16_scopes_grants gs (t, n, a)).mp ha).2.resolve_right fun h => h hs

end Oras.Props.C16
