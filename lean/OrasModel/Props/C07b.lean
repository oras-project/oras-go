/-
  C07, continued — after a layout is opened again (`oci.New`, `NewFromFS`, `NewFromTar`:
  `loadIndex` → `IndexAll` per `index.json` entry), and `ForceCAS` of the file store.
  Lemmas: `Proofs/IndexAll.lean`, `Proofs/OciReopen.lean`, `Proofs/Stores.lean`.
-/
import OrasModel.Proofs.OciReopen
import OrasModel.Proofs.Stores
namespace Oras.Props.C07
open Oras Oras.OciSt Oras.GMem

/-- **`IndexAll` is complete and adds nothing false** (the statement the design left to
    correspondence): from any root, with fuel above the root's rank in the (acyclic) DAG,
    every manifest that can be read and is reachable from the root through readable manifests
    ends up indexed with each of its links, and what the graph held before is kept. -/
theorem c07_indexAll_complete (succOf : Key → Option (List Key)) (rk : Key → Nat)
    (hrk : RankOK succOf rk) (g : GMem) (root : Key) (fuel : Nat) (hfuel : rk root < fuel)
    (m : Key) (ss : List Key) (hreach : ReachOf succOf root m) (hs : succOf m = some ss) :
    (indexAll succOf fuel g root).nodes m = true ∧ (∀ k ∈ ss, m ∈ (indexAll succOf fuel g root).preds k) ∧
    (∀ k p, p ∈ g.preds k → p ∈ (indexAll succOf fuel g root).preds k) :=
  ⟨(indexAll_complete succOf rk hrk g root fuel hfuel m ss hreach hs).1,
   (indexAll_complete succOf rk hrk g root fuel hfuel m ss hreach hs).2,
   (indexAll_keeps succOf g root fuel).2⟩

/-- **Predecessors after reopening a layout are exact**: for every layout (any blobs, any
    `index.json`, written by this store or by another tool), every queried node `k` and every
    candidate `p`: `p` is reported only if it is a stored manifest that links to `k`, and it
    *is* reported whenever it is a stored manifest linking to `k` that some `index.json`
    entry reaches through stored manifests. -/
theorem c07_reopen_exact (c : OciCfg) (st : OciSt) (rk : Node → Nat)
    (hrk : RankOK (succOf c st.blobs) rk) (fuel : Nat) (hfuel : ∀ e ∈ st.indexFile, rk e.1 < fuel)
    (k p : Node) :
    (p ∈ (st.reopen c fuel).graph.predecessors k → c.isMan p = true ∧ p ∈ st.blobs ∧ k ∈ c.succ p) ∧
    (c.isMan p = true → p ∈ st.blobs → k ∈ c.succ p →
      (∃ e ∈ st.indexFile, ReachOf (succOf c st.blobs) e.1 p) →
      p ∈ (st.reopen c fuel).graph.predecessors k) := by
  have hg : (st.reopen c fuel).graph =
      indexRoots (succOf c st.blobs) fuel (st.indexFile.map (·.1)) GMem.empty := loadIndex_graph ..
  rw [GMem.predecessors, hg]
  constructor
  · exact indexRoots_preserves _ fuel _ _ (EdgesSound c st.blobs) (edgesSound_index c st.blobs)
      (fun _ _ h => by cases h) k p
  · intro hm hb hk ⟨e, he, hreach⟩
    have hs : succOf c st.blobs p = some (c.succ p) := (succOf_eq_some ..).mpr (.inl ⟨hm, hb, rfl⟩)
    exact (indexRoots_complete _ rk hrk fuel _ _ (List.forall_mem_map.mpr hfuel)
      (List.mem_map_of_mem he) hreach hs).2 k hk

/-- Non-vacuity, and the shape the seeded change C07/m1 broke: `index.json` lists only an
    index (3) with a single manifest (2) over a config (0) and a layer (1); the hypotheses of
    `c07_reopen_exact` hold and it yields that the manifest is a predecessor of its config. -/
example :
    let c : OciCfg := { succ := fun n => if n = 3 then [2] else if n = 2 then [0, 1] else [],
                        isMan := fun n => n == 2 || n == 3, subject := fun _ => none }
    let st : OciSt := { OciSt.empty with blobs := [0, 1, 2, 3], indexFile := [(3, some 7, 0)] }
    2 ∈ (st.reopen c 10).graph.predecessors 0 := by
  intro c st
  have hrk : RankOK (succOf c st.blobs) (fun n => n) := rankOK_succOf c st.blobs _ (by decide)
  refine (c07_reopen_exact c st (fun n => n) hrk 10 (by intro e he; simp [st] at he; subst he; decide) 0 2).2
    (by rfl) (by simp [st]) (by simp [c]) ⟨(3, some 7, 0), by simp [st], ?_⟩
  exact ReachOf.step ReachOf.refl (ss := [2]) (by rfl) List.mem_cons_self

open FileSt in
/-- **`ForceCAS` does not touch the predecessor index**: a push into a file store records the
    same graph — hence answers `Predecessors` identically afterwards — whether duplicate
    restoration is switched off (`ForceCAS = true`) or not. -/
theorem c07_forcecas_same_graph (c : StoreCfg) (re : Bool) (st : FileSt) (d : SDesc) (good : Bool) :
    (FileSt.push c re st d good true).1.graph = (FileSt.push c re st d good false).1.graph ∧
    (FileSt.push c re st d good true).2 = (FileSt.push c re st d good false).2 := by
  rw [push_eq, push_eq, if_neg (by simp), if_neg (by simp)]
  split
  · exact ⟨rfl, rfl⟩
  · exact ⟨by rw [finish_graph, finish_graph], rfl⟩

end Oras.Props.C07
