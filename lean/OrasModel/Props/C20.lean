/-
  C20 — References parse exactly per grammar, round-trip, and stay in their URL slot.
  The grammar, the two directions between it and `parseRef`, the round trip for valid parts,
  then the property theorems.
  Model: `Model/Ref.lean`, `Model/Re.lean`; regex trees, digest algorithm table:
  `Gen/Regex.lean` (regenerated from /repo and go-digest on every run).
-/
import OrasModel.Proofs.Ref
import OrasModel.Gen.Regex
import OrasModel.Gen.Facts
namespace Oras.Props.C20
open Oras

/-- The reference suffix per the documented grammar, as a *decomposition* (no searching):
    suffix text ↦ resulting reference.  The last three constructors are the lenient forms
    (a bare trailing `:` or `@`), which the property does not judge. -/
inductive Suffix (cfg : RefCfg) : Str → Str → Prop
  | none : Suffix cfg [] []
  | tag (t : Str) : t ≠ [] → tagOk cfg t = true → Suffix cfg (':' :: t) t
  | digest (d : Str) : digestOk cfg d = true → Suffix cfg ('@' :: d) d
  | tagDigest (t d : Str) : '@' ∉ t → digestOk cfg d = true → Suffix cfg (':' :: t ++ '@' :: d) d
  | bareColon : Suffix cfg [':'] []
  | bareAt : Suffix cfg ['@'] []
  | tagBareAt (t : Str) : '@' ∉ t → Suffix cfg (':' :: t ++ ['@']) []

/-- `s` is `registry "/" repository suffix` with valid parts, and `r` holds those parts. -/
def InGrammar (cfg : RefCfg) (s : Str) (r : Ref) : Prop :=
  ∃ suf, s = r.registry ++ '/' :: (r.repository ++ suf) ∧ '/' ∉ r.registry ∧
    cfg.validReg r.registry = true ∧ repoOk cfg r.repository = true ∧ Suffix cfg suf r.reference

/-- What the proofs need from the recognisers; each clause is decided on the generated
    trees below (`c20_gen_cfg_ok`). -/
structure CfgOK (cfg : RefCfg) : Prop where
  repo_colon : exclRepo cfg ':' = true
  repo_at : exclRepo cfg '@' = true
  tag_at : exclTag cfg '@' = true
  tag_colon : exclTag cfg ':' = true
  dig_at : exclDigest cfg '@' = true
  repo_nonempty : cfg.repoRe.nullable = false

theorem parse_sound (cfg : RefCfg) (s : Str) (r : Ref) (h : parseRef cfg s = some r) :
    InGrammar cfg s r := by
  obtain ⟨isTag, hs, hv, hr, hok⟩ := parseRef_eq_some.mp h
  obtain ⟨suf, rfl, hreg, hsh⟩ := splitRef_some hs
  obtain ⟨reg, repo, ref⟩ := r
  refine ⟨suf, rfl, hreg, hv, hr, ?_⟩
  simp only at hok hsh ⊢
  -- each shape is a suffix of the grammar: a lenient one if the reference text is empty,
  -- else the one whose validator ran
  by_cases he : ref = []
  · subst he
    cases hsh with
    | none => exact .none
    | colon _ nt => exact .bareColon
    | «at» => exact .bareAt
    | colonAt t _ nt => exact .tagBareAt t nt
  · have hok := hok.resolve_left he
    cases hsh with
    | none => exact absurd rfl he
    | colon _ nt => exact .tag _ he hok
    | «at» => exact .digest _ hok
    | colonAt t _ nt => exact .tagDigest t _ nt hok

theorem parse_complete (cfg : RefCfg) (hc : CfgOK cfg) (s : Str) (r : Ref) (h : InGrammar cfg s r) :
    parseRef cfg s = some r := by
  obtain ⟨suf, rfl, hreg, hv, hr, hsuf⟩ := h
  obtain ⟨reg, repo, ref⟩ := r
  have split {ref isTag} (h : SuffixShape suf ref isTag) :=
    splitRef_shape hreg (repoOk_excl hc.repo_colon hr) (repoOk_excl hc.repo_at hr) h
  refine parseRef_eq_some.mpr ?_
  cases hsuf with
  | none => exact ⟨_, split .none, hv, hr, .inl rfl⟩
  | tag _ _ ht => exact ⟨_, split (.colon _ (tagOk_excl hc.tag_at ht)), hv, hr, .inr ht⟩
  | digest _ hd => exact ⟨_, split (.at _), hv, hr, .inr hd⟩
  | tagDigest t _ nt hd => exact ⟨_, split (.colonAt t _ nt), hv, hr, .inr hd⟩
  | bareColon => exact ⟨_, split (.colon [] List.not_mem_nil), hv, hr, .inl rfl⟩
  | bareAt => exact ⟨_, split (.at []), hv, hr, .inl rfl⟩
  | tagBareAt t nt => exact ⟨_, split (.colonAt t [] nt), hv, hr, .inl rfl⟩

/-- **Accepts exactly the grammar and returns its parts** (tag dropped before a digest):
    for every string and every registry validator. -/
theorem c20_accept_iff (cfg : RefCfg) (hc : CfgOK cfg) (s : Str) (r : Ref) :
    parseRef cfg s = some r ↔ InGrammar cfg s r :=
  ⟨parse_sound cfg s r, parse_complete cfg hc s r⟩

/-- The decomposition is unique: a string has at most one reading. -/
theorem c20_decomposition_unique (cfg : RefCfg) (hc : CfgOK cfg) (s : Str) (r₁ r₂ : Ref)
    (h₁ : InGrammar cfg s r₁) (h₂ : InGrammar cfg s r₂) : r₁ = r₂ :=
  Option.some.inj ((parse_complete cfg hc s r₁ h₁).symm.trans (parse_complete cfg hc s r₂ h₂))

theorem parse_format (cfg : RefCfg) (hc : CfgOK cfg) (r : Ref) (hreg : '/' ∉ r.registry)
    (hv : cfg.validReg r.registry = true) (hr : repoOk cfg r.repository = true)
    (hok : r.reference = [] ∨ tagOk cfg r.reference = true ∨ digestOk cfg r.reference = true) :
    parseRef cfg (r.format cfg) = some r := by
  obtain ⟨reg, repo, ref⟩ := r
  simp only at hreg hv hr hok
  have hrepo : repo ≠ [] := fun e => by
    rw [e, repoOk, Re.accepts, hc.repo_nonempty] at hr; cases hr
  -- once the formatted text is seen to end in a suffix of the grammar, it parses
  have parses (suf : Str) (hf : Ref.format cfg ⟨reg, repo, ref⟩ = reg ++ '/' :: (repo ++ suf))
      (hsuf : Suffix cfg suf ref) : parseRef cfg (Ref.format cfg ⟨reg, repo, ref⟩) = some ⟨reg, repo, ref⟩ :=
    parse_complete cfg hc _ _ ⟨suf, hf, hreg, hv, hr, hsuf⟩
  by_cases he : ref = []
  · subst he
    exact parses [] (by simp [Ref.format, hrepo]) .none
  · -- `format` writes `@` exactly when the reference is a digest; otherwise it is a tag
    by_cases hd : digestOk cfg ref = true
    · exact parses ('@' :: ref) (by simp [Ref.format, hrepo, he, hd]) (.digest ref hd)
    · have ht : tagOk cfg ref = true := (hok.resolve_left he).resolve_right hd
      exact parses (':' :: ref) (by simp [Ref.format, hrepo, he, hd]) (.tag ref he ht)

/-- **Round trip**: formatting an accepted reference and parsing it again yields the
    same reference. -/
theorem c20_roundtrip (cfg : RefCfg) (hc : CfgOK cfg) (s : Str) (r : Ref)
    (h : parseRef cfg s = some r) : parseRef cfg (r.format cfg) = some r :=
  have ⟨hreg, hv, hr, hok⟩ := parseRef_valid h
  parse_format cfg hc r hreg hv hr hok

/-- **URL slot**: an accepted reference's repository and reference contain none of the
    characters that could open another URL component (`?`, `#`, `%`), the repository
    contains no `:`/`@`, and the reference contains no `/` — so
    `/v2/<repository>/<kind>/<reference>` has exactly the intended segments and no query. -/
theorem c20_url_slot (cfg : RefCfg) (s : Str) (r : Ref) (c : Char)
    (hrc : exclRepo cfg c = true) (htc : exclTag cfg c = true) (hdc : exclDigest cfg c = true)
    (h : parseRef cfg s = some r) : c ∉ r.repository ∧ c ∉ r.reference := by
  obtain ⟨-, -, hr, hok⟩ := parseRef_valid h
  refine ⟨repoOk_excl hrc hr, ?_⟩
  rcases hok with he | ht | hd
  · rw [he]; exact List.not_mem_nil
  · exact tagOk_excl htc ht
  · exact digestOk_excl hdc hd

/-- The recognisers of the current source tree, for any registry validator. -/
def genCfg (validReg : Str → Bool) : RefCfg :=
  { validReg := validReg, repoRe := Gen.repositoryRe, tagRe := Gen.tagRe, algs := Gen.digestAlgs }

theorem c20_gen_cfg_ok (validReg : Str → Bool) : CfgOK (genCfg validReg) where
  -- each clause speaks of the generated trees only: with `genCfg` and the recogniser unfolded,
  -- `validReg` is gone and what is left is a closed Boolean, which is evaluated
  repo_colon := by simp only [exclRepo, genCfg]; decide
  repo_at := by simp only [exclRepo, genCfg]; decide
  tag_at := by simp only [exclTag, genCfg]; decide
  tag_colon := by simp only [exclTag, genCfg]; decide
  dig_at := by simp only [exclDigest, genCfg]; decide
  repo_nonempty := by simp only [genCfg]; decide

/-- `?`, `#`, `%`, space and `/` (for references) are excluded by the generated trees. -/
theorem c20_gen_url_chars (validReg : Str → Bool) :
    (['?', '#', '%', ' ', '\\'].all fun c =>
      exclRepo (genCfg validReg) c && exclTag (genCfg validReg) c && exclDigest (genCfg validReg) c) = true ∧
    exclTag (genCfg validReg) '/' = true ∧ exclDigest (genCfg validReg) '/' = true := by
  -- as in `c20_gen_cfg_ok`: unfolded, `validReg` is gone
  simp only [exclRepo, exclTag, exclDigest, genCfg]
  decide +kernel

/-- The property for the current source: accept-iff-grammar, round trip. -/
theorem c20_current_source (validReg : Str → Bool) (s : Str) (r : Ref) :
    (parseRef (genCfg validReg) s = some r ↔ InGrammar (genCfg validReg) s r) ∧
    (parseRef (genCfg validReg) s = some r →
      parseRef (genCfg validReg) (r.format (genCfg validReg)) = some r) :=
  ⟨c20_accept_iff _ (c20_gen_cfg_ok validReg) s r, c20_roundtrip _ (c20_gen_cfg_ok validReg) s r⟩

/-- Non-vacuity: two texts that are accepted (with a tag, without a reference) and three that are
    refused (upper case in the repository, a digest whose encoding does not fit, no `/`). -/
example :
    let cfg := genCfg (fun r => r == "localhost:5000".toList)
    (parseRef cfg "localhost:5000/a/b_c:v1.0".toList).isSome ∧
    (parseRef cfg "localhost:5000/a/b".toList).isSome ∧
    (parseRef cfg "localhost:5000/a/B".toList).isNone ∧
    (parseRef cfg "localhost:5000/a:t@sha256:xyz".toList).isNone ∧
    (parseRef cfg "nohost".toList).isNone := by
  decide +kernel

/-- **Source fact** (regenerated): `ValidateRegistry` rejects a registry unless the host that
    `net/url` parses out of it is the whole string — which is what keeps user-info, queries and
    fragments out of the registry part (the model takes the verdict as its `validReg`
    parameter; the specification side of the driver rejects `@`, `?`, `#` on its own). -/
theorem c20_source_facts : Gen.registryHostMustEqual = true := rfl

/-- **Documented length rules, about the expressions the source compiles**: a tag the
    library accepts has between 1 and 128 characters … -/
theorem c20_tag_length (s : List Char) (h : Gen.tagRe.accepts s = true) : 1 ≤ s.length ∧ s.length ≤ 128 :=
  Re.length_bounds h (by decide) (by decide)

/-- … the registered digest algorithms are exactly sha256, sha384 and sha512, and an
    accepted encoding has exactly the algorithm's hex length … -/
theorem c20_digest_length (alg : List Char) (r : Re) (hm : (alg, r) ∈ Gen.digestAlgs)
    (s : List Char) (h : r.accepts s = true) :
    (alg = "sha256".toList ∧ s.length = 64) ∨ (alg = "sha384".toList ∧ s.length = 96) ∨
    (alg = "sha512".toList ∧ s.length = 128) := by
  -- every registered pattern has one length only, the one documented for its algorithm
  have table : ∀ p ∈ Gen.digestAlgs, Re.maxLen p.2 = some (Re.minLen p.2) ∧
      ((p.1 = "sha256".toList ∧ Re.minLen p.2 = 64) ∨ (p.1 = "sha384".toList ∧ Re.minLen p.2 = 96) ∨
       (p.1 = "sha512".toList ∧ Re.minLen p.2 = 128)) := by decide
  obtain ⟨hmax, halg⟩ := table _ hm
  rw [Nat.le_antisymm (Re.maxLen_sound r _ hmax s h) (Re.minLen_sound r s h)]
  exact halg

/-- … and a repository name is not empty. -/
theorem c20_repository_nonempty (s : List Char) (h : Gen.repositoryRe.accepts s = true) : 1 ≤ s.length :=
  (by decide : Re.minLen Gen.repositoryRe = 1) ▸ Re.minLen_sound Gen.repositoryRe s h

-- Non-vacuity: a 128-character tag is accepted, a 129-character one is not.
set_option maxRecDepth 16384 in
example : Gen.tagRe.accepts (List.replicate 128 't') = true ∧ Gen.tagRe.accepts (List.replicate 129 't') = false := by
  decide +kernel

/-- **Repository forms**: against a repository `base`, a tag, a digest, `tag@digest` and the
    fully-qualified string all resolve to the same reference `base` + that tag/digest; a
    fully-qualified string naming another registry or repository is rejected. -/
theorem c20_repo_forms (cfg : RefCfg) (hc : CfgOK cfg) (base : Ref)
    (hts : exclTag cfg '/' = true) (hds : exclDigest cfg '/' = true)
    (hreg : '/' ∉ base.registry) (hv : cfg.validReg base.registry = true)
    (hr : repoOk cfg base.repository = true) :
    (∀ t, t ≠ [] → tagOk cfg t = true →
        repoParseRef cfg base t = some ⟨base.registry, base.repository, t⟩ ∧
        repoParseRef cfg base (Ref.format cfg ⟨base.registry, base.repository, t⟩)
          = some ⟨base.registry, base.repository, t⟩) ∧
    (∀ d, digestOk cfg d = true →
        repoParseRef cfg base d = some ⟨base.registry, base.repository, d⟩ ∧
        (∀ t, '@' ∉ t → '/' ∉ t →
          repoParseRef cfg base (t ++ '@' :: d) = some ⟨base.registry, base.repository, d⟩) ∧
        repoParseRef cfg base (Ref.format cfg ⟨base.registry, base.repository, d⟩)
          = some ⟨base.registry, base.repository, d⟩) ∧
    (∀ s r, parseRef cfg s = some r →
        (r.registry ≠ base.registry ∨ r.repository ≠ base.repository) →
        repoParseRef cfg base s = none) := by
  -- the fully-qualified text that `format` writes for `base` and a valid reference
  have full (x : Str) (hne : x ≠ []) (hx : tagOk cfg x = true ∨ digestOk cfg x = true) :
      repoParseRef cfg base (Ref.format cfg ⟨base.registry, base.repository, x⟩)
        = some ⟨base.registry, base.repository, x⟩ := by
    rw [repoParseRef_of_parse base (parse_format cfg hc ⟨_, _, x⟩ hreg hv hr (.inr hx)), if_pos ⟨rfl, rfl, hne⟩]
  refine ⟨fun t hne ht => ⟨?_, full t hne (.inl ht)⟩, fun d hd => ?_, fun s r hp hne => ?_⟩
  · have tc : ':' ∉ t := tagOk_excl hc.tag_colon ht
    exact repoParseRef_bare base (tagOk_excl hts ht) (tagOk_excl hc.tag_at ht) hne
      (by simp [validateReference, hne, tc, ht])
  · have hne := digestOk_nonempty hd
    have ds : '/' ∉ d := digestOk_excl hds hd
    refine ⟨?_, fun t ta ts => ?_, full d hne (.inr hd)⟩
    · exact repoParseRef_bare base ds (digestOk_excl hc.dig_at hd) hne
        (by simp [validateReference, hne, digestOk_has_colon hd, hd])
    · exact repoParseRef_at base ts ds ta hd
  · rw [repoParseRef_of_parse base hp, if_neg fun h => hne.elim (· h.1) (· h.2.1)]

end Oras.Props.C20
