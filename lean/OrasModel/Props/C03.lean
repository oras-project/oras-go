/-
  C03 — ExtendedCopy reaches every ancestor's graph; depth and filters bound it.
  The property theorems, after the two lemmas on `Down`.  Model: `Model/FindRoots.lean`
  (`extendedcopy.go`), helpers: `Proofs/FindRoots.lean`.  The copied set is `Down succ` of the roots (C01).
-/
import OrasModel.Proofs.FindRoots
import OrasModel.Gen.Facts
namespace Oras.Props.C03
open Oras

/-- Downward closure through links. -/
inductive Down (succ : Node → List Node) : Node → Node → Prop
  | refl (a : Node) : Down succ a a
  | step {a b c : Node} : Down succ a b → c ∈ succ b → Down succ a c

theorem down_trans {succ : Node → List Node} {a b c : Node} (h1 : Down succ a b) (h2 : Down succ b c) :
    Down succ a c := by
  induction h2 with
  | refl => exact h1
  | step _ hc ih => exact Down.step ih hc

theorem down_of_anc {succ preds : Node → List Node} (hps : ∀ p v, p ∈ preds v → v ∈ succ p)
    {k : Nat} {a r : Node} (h : AncN preds a k r) : Down succ r a := by
  induction h with
  | refl => exact Down.refl _
  | step _ hc ih => exact down_trans (Down.step (Down.refl _) (hps _ _ hc)) ih

section
variable (preds : Node → List Node) (depth : Nat) (n0 : Node) (fuel : Nat) (roots : List Node)

/-- **Depth bound**: every root has a predecessor path from the given node, of length at
    most `depth` when a limit is set; a root either has no (kept) predecessor or sits
    exactly at the limit.  So nothing outside the graphs of ancestors at most `depth`
    steps away is copied. -/
theorem c03_depth_bound (h : findRoots preds depth fuel n0 = some roots) :
    ∀ r ∈ roots, ∃ d, AncN preds n0 d r ∧ (depth > 0 → d ≤ depth) ∧
      (preds r = [] ∨ (depth > 0 ∧ d = depth)) :=
  (findRoots_exit h).1

/-- **Own graph**: under any depth limit and any filter (i.e. any `preds`), provided the
    predecessor relation is well-founded upward (`ht`: a height function bounded by `H`),
    some root lies above the given node — so the node's own graph is inside the copied set. -/
theorem c03_self (ht : Node → Nat) (H : Nat) (hup : ∀ v p, p ∈ preds v → ht v < ht p)
    (hH : ∀ v, ht v ≤ H) (h : findRoots preds depth fuel n0 = some roots) :
    ∃ r ∈ roots, Anc preds n0 r := by
  obtain ⟨_, visited, hn0, hcl⟩ := findRoots_exit h
  exact root_above hcl ht H hup hH n0 hn0

/-- **Unbounded, unfiltered: exactly the upward closure.**  With `depth = 0` every ancestor
    of the given node is visited, every root is an ancestor without predecessors, and every
    ancestor has a root above it. -/
theorem c03_unbounded_exact (ht : Node → Nat) (H : Nat) (hup : ∀ v p, p ∈ preds v → ht v < ht p)
    (hH : ∀ v, ht v ≤ H) (h : findRoots preds 0 fuel n0 = some roots) :
    (∀ r ∈ roots, Anc preds n0 r ∧ preds r = []) ∧
    (∀ a, Anc preds n0 a → ∃ r ∈ roots, Anc preds a r) := by
  obtain ⟨hroots, visited, hn0, hcl⟩ := findRoots_exit h
  have noPreds : ∀ r ∈ roots, preds r = [] := fun r hr =>
    let ⟨_, _, _, h3⟩ := hroots r hr
    h3.elim id fun h => absurd h.1 (Nat.lt_irrefl 0)
  refine ⟨fun r hr => ⟨let ⟨d, hd, _⟩ := hroots r hr; ⟨d, hd⟩, noPreds r hr⟩, ?_⟩
  intro a ⟨k, hk⟩
  -- with no depth limit a root has no predecessor, so the visited set is closed under them
  have closed : ∀ v ∈ visited, ∀ p ∈ preds v, p ∈ visited := fun v hv p hp =>
    (hcl v hv).elim (fun h1 => by rw [noPreds v h1] at hp; cases hp) (·.2 p hp)
  exact root_above hcl ht H hup hH a (ancN_mem_of_closed closed hn0 hk)

/-- **The copied set** (composition with C01's closure): with unlimited depth and no
    filter, a node is below some root iff it is below some ancestor of the given node —
    the given node's full upward closure, no more, no less. -/
theorem c03_copied_set (succ : Node → List Node) (hps : ∀ p v, p ∈ preds v → v ∈ succ p)
    (ht : Node → Nat) (H : Nat) (hup : ∀ v p, p ∈ preds v → ht v < ht p) (hH : ∀ v, ht v ≤ H)
    (h : findRoots preds 0 fuel n0 = some roots) (x : Node) :
    (∃ r ∈ roots, Down succ r x) ↔ (∃ a, Anc preds n0 a ∧ Down succ a x) := by
  obtain ⟨h1, h2⟩ := c03_unbounded_exact preds n0 fuel roots ht H hup hH h
  constructor
  · rintro ⟨r, hr, hd⟩
    exact ⟨r, (h1 r hr).1, hd⟩
  · rintro ⟨a, ha, hd⟩
    obtain ⟨r, hr, k, hk⟩ := h2 a ha
    exact ⟨r, hr, down_trans (down_of_anc hps hk) hd⟩

end

/-- **The artifact-type filter tests the manifest's own artifact type** (artifactType,
    else config media type) for image manifests, artifact manifests and indexes, whenever
    the source's descriptor is plain or carries that same type. -/
theorem c03_filter_exact (p : PredInfo)
    (hexcl : p.isArtifactManifest = true → p.isImageManifest = false)
    (hother : p.isArtifactManifest = false → p.isImageManifest = false → p.isIndex = false → p.manifestAT = "")
    (hdesc : p.descAT = "" ∨ p.descAT = specAT p) : filterAT p = specAT p := by
  unfold filterAT
  by_cases he : p.descAT = ""
  · -- a plain descriptor: the manifest is read, kind by kind
    simp only [he, ne_eq, not_true_eq_false, if_false]
    unfold specAT
    cases ha : p.isArtifactManifest
    · cases hi : p.isImageManifest
      · cases hx : p.isIndex
        · simp [hother ha hi hx]
        · by_cases hm : p.manifestAT = "" <;> simp [hm]
      · by_cases hm : p.manifestAT = "" <;> simp [hm]
    · simp only [if_true, hexcl ha]
      by_cases hm : p.manifestAT = "" <;> simp [hm]
  · simp only [ne_eq, he, not_false_eq_true, if_true]
    exact hdesc.resolve_left he

/-- Finding F6 (repaired by a `fix:` commit): an image manifest whose `artifactType` is
    set used to be tested on its config media type.  The model now follows the repaired
    code; this is the former counterexample, now an instance of the theorem. -/
theorem c03_f6_witness_now_holds :
    let p : PredInfo := { isImageManifest := true, isArtifactManifest := false, isIndex := false,
                          descAT := "", manifestAT := "application/vnd.verif.sig",
                          configMT := "application/vnd.oci.empty.v1+json" }
    filterAT p = "application/vnd.verif.sig" := by
  decide

/-- `FilterArtifactType` fetches image manifests, artifact manifests and indexes; for an
    image manifest `fetchArtifactType` consults `ArtifactType` before `Config`. -/
theorem c03_fetch_table :
    Gen.fetchATCases.lookup "application/vnd.oci.image.manifest.v1+json" = some ["ArtifactType", "Config"] ∧
    Gen.fetchATCases.lookup "application/vnd.oci.image.index.v1+json" = some ["ArtifactType"] ∧
    Gen.fetchATCases.lookup "application/vnd.oci.artifact.manifest.v1+json" = some ["ArtifactType"] ∧
    Gen.fetchATCases.all (fun r => Gen.filterATFetchTypes.contains r.1) = true ∧
    Gen.manifestTypes.all (fun t => Gen.filterAnnFetchTypes.contains t) = true := by
  decide

/-- **`findRoots` terminates**: over any finite universe `U` closed under predecessors
    (every `preds` list bounded by `B`), for every depth limit and start node there is an
    amount of fuel — `|U|·(B+1) + 2` — with which the loop reaches its exit; the visited set
    makes every node expand at most once, whatever order `preds` returns.  Together with
    `c03_depth_bound`, `c03_self` and `c03_unbounded_exact` (which speak about the state at
    loop exit) this makes those statements total. -/
theorem c03_terminates (preds : Node → List Node) (depth : Nat) (U : List Node) (B : Nat)
    (hU : ∀ n ∈ U, ∀ p ∈ preds n, p ∈ U) (hB : ∀ n, (preds n).length ≤ B) (n0 : Node) (h0 : n0 ∈ U) :
    ∃ roots, findRoots preds depth (U.length * (B + 1) + 2) n0 = some roots := by
  -- of the `+ 2`, one is the start entry on the stack, one is there because `frRun_terminates` asks
  -- for a measure below the fuel
  have hm : frMeasure U B (FRSt.init n0) < U.length * (B + 1) + 2 := by
    have := Nat.mul_le_mul_right (B + 1) (List.length_filter_le (· ∉ []) U)
    show (U.filter (· ∉ [])).length * (B + 1) + 1 < U.length * (B + 1) + 2
    omega
  obtain ⟨s, hs⟩ := frRun_terminates
    (fun s s' hs inv => ⟨frInv_step hs inv, frStep_decreases hU (fun n _ => hB n) h0 inv hs⟩)
    _ _ (frInv_init preds depth n0) hm
  exact ⟨s.roots, by rw [findRoots, hs]; rfl⟩

/-- Non-vacuity / depth is not completeness: a diamond where the DFS reaches a node first
    through the long path, so with `depth = 2` an ancestor that is 2 steps away by the short
    path is cut off at the limit — allowed by the property ("nothing outside"), shown here. -/
example :
    let preds : Node → List Node := fun n => if n = 0 then [1, 2] else if n = 2 then [1] else if n = 1 then [3] else []
    findRoots preds 0 20 0 = some [3] ∧ findRoots preds 2 20 0 = some [1] := by
  decide

end Oras.Props.C03
