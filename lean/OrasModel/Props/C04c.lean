/-
  C04 — each node is claimed by exactly one worker (`Model/Tracker.lean`): the single-transfer
  clause rests on `TryCommit` being one atomic `LoadOrStore` keyed by the full descriptor.
-/
import OrasModel.Model.Tracker
import OrasModel.Gen.Facts
namespace Oras.Props.C04
open Oras Oras.Tracker

/-- The two clauses of `c04_single_claim`, and what keeps them: no worker stands inside the claim. -/
structure TInv (s : St) : Prop where
  uniq : ∀ i j, (s.ws i).committed = true → (s.ws j).committed = true → i = j
  storedIff : s.stored = true ↔ ∃ i, (s.ws i).committed = true
  /-- `LoadOrStore` never parks a worker between Load and Store -/
  noMid : ∀ i, (s.ws i).pc ≠ 1

theorem step_atomic (s : St) (i : Nat) (hpc : (s.ws i).pc ≠ 1) :
    step true s i = s ∨
    (s.stored = true ∧ step true s i = { s with ws := fupd s.ws i { s.ws i with pc := 2 } }) ∨
    (s.stored = false ∧ step true s i = { stored := true, ws := fupd s.ws i { pc := 2, committed := true } }) := by
  simp only [step, if_true]
  split
  · cases hs : s.stored <;> simp
  · next h => exact absurd h hpc
  · exact Or.inl rfl

theorem tinv_step (s : St) (i : Nat) (h : TInv s) : TInv (step true s i) := by
  have hmid : ∀ w : Worker, w.pc = 2 → ∀ j, (fupd s.ws i w j).pc ≠ 1 := fun w hw =>
    fupd_forall (P := fun _ (w : Worker) => w.pc ≠ 1) h.noMid (by rw [hw]; decide)
  rcases step_atomic s i (h.noMid i) with e | ⟨hs, e⟩ | ⟨hs, e⟩ <;> rw [e]
  · exact h
  · -- the key is there: nobody's `committed` changes
    have hc : ∀ j, (fupd s.ws i { s.ws i with pc := 2 } j).committed = (s.ws j).committed :=
      fupd_forall (P := fun j (w : Worker) => w.committed = (s.ws j).committed) (fun _ => rfl) rfl
    refine ⟨?_, ?_, hmid _ rfl⟩
    · simp only [hc]; exact h.uniq
    · simp only [hc]; exact h.storedIff
  · -- the key is not there: nobody has committed, and afterwards exactly `i` has
    have hnone : ∀ j, (s.ws j).committed ≠ true := fun j hj => by simpa [hs] using h.storedIff.mpr ⟨j, hj⟩
    have hc : ∀ j, (fupd s.ws i { pc := 2, committed := true } j).committed = true → j = i :=
      fupd_forall (P := fun j (w : Worker) => w.committed = true → j = i) (fun j hj => absurd hj (hnone j))
        fun _ => rfl
    exact ⟨fun a b ha hb => (hc a ha).trans (hc b hb).symm, ⟨fun _ => ⟨i, by simp⟩, fun _ => rfl⟩, hmid _ rfl⟩

/-- **At most one worker claims a node, in every schedule**, and the node is marked exactly
    when one did. -/
theorem c04_single_claim (sched : List Nat) :
    let s := run true init sched
    (∀ i j, (s.ws i).committed = true → (s.ws j).committed = true → i = j) ∧
    (s.stored = true ↔ ∃ i, (s.ws i).committed = true) := by
  have h : TInv (run true init sched) :=
    List.foldlRecOn sched _ (by constructor <;> simp [init]) fun s h i _ => tinv_step s i h
  exact ⟨h.uniq, h.storedIff⟩

/-- The seeded change C04/m10: with a separate `Load` and `Store`, two workers that both load
    before either stores both claim the node. -/
theorem c04_counterexample_split_claim :
    winners (run false init [0, 1, 0, 1]) 2 = 2 ∧ winners (run true init [0, 1, 0, 1]) 2 = 1 := by
  decide

/-- The source claims with one `LoadOrStore`, keyed by the descriptor (media type, digest, size). -/
theorem c04_tracker_source_facts :
    Gen.trackerCalls = ["descriptor.FromOCI", "t.status.LoadOrStore"] :=
  rfl

end Oras.Props.C04
