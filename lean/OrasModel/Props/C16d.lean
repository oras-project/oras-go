/-
  C16 — the WWW-Authenticate parser (`Model/Challenge.lean`): a challenge that is not Bearer
  yields no parameters (hence no token realm), and a Bearer challenge in the usual form yields
  exactly the realm and service it states, for every text between the quotes that needs no
  escape (`Plain`: no `"`, no `\`, no newline).
-/
import OrasModel.Model.Challenge
namespace Oras.Props.C16
open Oras Oras.Challenge

/-- text that needs no escape between double quotes -/
def Plain (v : List Char) : Prop := ∀ c ∈ v, c ≠ '"' ∧ c ≠ '\\' ∧ c ≠ '\n'

def Token (t : List Char) : Prop := t ≠ [] ∧ ∀ c ∈ t, isTokenChar c = true

/-- Blank and `=` end a token.  (The string of special token characters in `isTokenChar` is a
    literal, that is `String.ofList` of its characters; evaluating `toList` on it instead is slow.) -/
theorem delimiters_not_token :
    isTokenChar ' ' = false ∧ isTokenChar '\t' = false ∧ isTokenChar '=' = false := by
  rw [isTokenChar, isTokenChar, isTokenChar, String.toList_ofList]
  decide

theorem parseToken_append {t : List Char} (ht : ∀ c ∈ t, isTokenChar c = true) (d : Char)
    (hd : isTokenChar d = false) (r : List Char) : parseToken (t ++ d :: r) = (t, d :: r) := by
  induction t with
  | nil => simp [parseToken, hd]
  | cons c cs ih =>
    simp [parseToken, ht c List.mem_cons_self, ih fun x hx => ht x (List.mem_cons_of_mem _ hx)]

theorem skipSpace_cons {c : Char} (h : c ≠ ' ' ∧ c ≠ '\t') (cs : List Char) :
    skipSpace (c :: cs) = c :: cs := by
  simp [skipSpace, h]

theorem skipSpace_token {t : List Char} (ht : Token t) (r : List Char) : skipSpace (t ++ r) = t ++ r := by
  obtain ⟨c, cs, rfl⟩ := List.exists_cons_of_ne_nil ht.1
  have hc := ht.2 c List.mem_cons_self
  refine skipSpace_cons ⟨?_, ?_⟩ _ <;> rintro rfl
  · rw [delimiters_not_token.1] at hc; cases hc
  · rw [delimiters_not_token.2.1] at hc; cases hc

theorem quoted_plain (v rest : List Char) (h : Plain v) : quoted (v ++ '"' :: rest) = some (some (v, rest)) := by
  induction v with
  | nil => simp [quoted]
  | cons c cs ih =>
    obtain ⟨h1, h2, h3⟩ := h c List.mem_cons_self
    rw [List.cons_append, quoted.eq_4 _ _ (fun _ e _ => h2 e) (fun _ e _ => h2 e),
      ih fun x hx => h x (List.mem_cons_of_mem _ hx)]
    simp [h1, h2, h3]

/-- One round of the loop on `key="v"` followed by `rest`. -/
theorem params_quoted (fuel : Nat) {key v : List Char} (hk : Token key) (hv : Plain v) (rest : List Char)
    (acc : List (List Char × List Char)) :
    params (fuel + 1) (key ++ '=' :: '"' :: (v ++ '"' :: rest)) acc =
      match skipSpace rest with
      | ',' :: r => params fuel r (acc ++ [(key, v)])
      | _ => .ok (acc ++ [(key, v)]) := by
  rw [params, skipSpace_token hk, parseToken_append hk.2 '=' delimiters_not_token.2.2]
  simp only [hk.1, if_false, skipSpace_cons (c := '=') (by decide), skipSpace_cons (c := '"') (by decide),
    quoted_plain v rest hv]
  rfl

theorem params_quoted_comma (fuel : Nat) {key v : List Char} (hk : Token key) (hv : Plain v) (r : List Char)
    (acc : List (List Char × List Char)) :
    params (fuel + 1) (key ++ '=' :: '"' :: (v ++ '"' :: ',' :: r)) acc = params fuel r (acc ++ [(key, v)]) := by
  rw [params_quoted fuel hk hv, skipSpace_cons (by decide)]; rfl

theorem params_quoted_end (fuel : Nat) {key v : List Char} (hk : Token key) (hv : Plain v)
    (acc : List (List Char × List Char)) :
    params (fuel + 1) (key ++ '=' :: '"' :: (v ++ ['"'])) acc = .ok (acc ++ [(key, v)]) := by
  rw [params_quoted fuel hk hv]; rfl

theorem params_space (fuel : Nat) (r : List Char) (acc : List (List Char × List Char)) :
    params (fuel + 1) (' ' :: r) acc = params (fuel + 1) r acc := rfl

/-- **Only a Bearer challenge carries parameters**: whatever follows the scheme of a Basic (or
    unknown) challenge, nothing of it is taken for a token realm, a service or a scope. -/
theorem c16_challenge_non_bearer (header : List Char) (h : (parseChallenge header).1 ≠ .bearer) :
    (parseChallenge header).2 = .ok [] := by
  unfold parseChallenge at h ⊢
  simp only at h ⊢
  split
  · rfl
  · rename_i hb
    simp only [ne_eq, Decidable.not_not] at hb
    simp [hb] at h

def kRealm : List Char := ['r', 'e', 'a', 'l', 'm']
def kService : List Char := ['s', 'e', 'r', 'v', 'i', 'c', 'e']

theorem token_kRealm : Token kRealm := ⟨by decide, by decide⟩
theorem token_kService : Token kService := ⟨by decide, by decide⟩

/-- the header `Bearer realm="<v>",service="<svc>"` -/
def usualHeader (v svc : List Char) : List Char :=
  ['B', 'e', 'a', 'r', 'e', 'r', ' '] ++ (kRealm ++ '=' :: '"' :: (v ++ '"' :: ',' :: (kService ++ '=' :: '"' :: (svc ++ ['"']))))

/-- **The usual Bearer challenge yields exactly the realm and the service it states** - for
    every realm and service text that needs no escaping: the token endpoint the client turns
    to is the one the registry named, character for character. -/
theorem c16_challenge_usual (v svc : List Char) (hv : Plain v) (hs : Plain svc) :
    parseChallenge (usualHeader v svc) = (.bearer, .ok [(kRealm, v), (kService, svc)]) := by
  unfold parseChallenge usualHeader
  have ht : ∀ r, parseToken (['B', 'e', 'a', 'r', 'e', 'r', ' '] ++ r) = (['B', 'e', 'a', 'r', 'e', 'r'], ' ' :: r) :=
    parseToken_append (t := ['B', 'e', 'a', 'r', 'e', 'r']) (by decide) ' ' delimiters_not_token.1
  have hsch : parseScheme ['B', 'e', 'a', 'r', 'e', 'r'] = .bearer := by
    -- its two string literals, as in `delimiters_not_token`
    rw [parseScheme, String.toList_ofList, String.toList_ofList]
    decide
  rw [ht]
  simp only [hsch, ne_eq, not_true_eq_false, if_false]
  -- two rounds of the loop; the fuel (the header's length + 1) is more than that
  generalize hn : List.length _ + 1 = n
  obtain ⟨k, rfl⟩ := Nat.exists_eq_add_of_le' (m := 2) (n := n) (by simp [← hn])
  rw [params_space, params_quoted_comma _ token_kRealm hv, params_quoted_end _ token_kService hs]
  rfl

/-- The scheme is recognised whatever its letter case. -/
example : (parseChallenge "bEaReR realm=\"r\"".toList).1 = .bearer ∧ (parseChallenge "BASIC realm=\"r\"".toList).1 = .basic ∧
    (parseChallenge "Negotiate x".toList).1 = .unknown := by
  -- the three literals, as in `delimiters_not_token`
  rw [String.toList_ofList, String.toList_ofList, String.toList_ofList]
  decide +kernel

end Oras.Props.C16
