/-
  C15 — Listings return every item exactly once and never over-read metadata
  (`Model/Pages.lean`).  The lemmas about `pageLoop` and about a registry that serves well-formed
  chains (`servePages`) stand before the property theorems that rest on them.
-/
import OrasModel.Model.Pages
import OrasModel.Proofs.Canon
import OrasModel.Proofs.Ref
namespace Oras.Props.C15
open Oras

section
variable {α : Type} {cb : Option Nat} {p : PageResp α} {i : Nat}

theorem pageLoop_next (hcb : cb ≠ some i) (hn : p.hasNext = true) (rest : List (PageResp α)) (acc : List (List α)) :
    pageLoop cb (p :: rest) i acc = pageLoop cb rest (i + 1) (acc ++ [p.items]) := by
  rw [pageLoop, if_neg hcb, if_pos hn]

theorem pageLoop_last (hcb : cb ≠ some i) (hn : p.hasNext = false) (rest : List (PageResp α)) (acc : List (List α)) :
    pageLoop cb (p :: rest) i acc = (acc ++ [p.items], .ok) := by
  rw [pageLoop, if_neg hcb, if_neg (by simp [hn])]

theorem pageLoop_fail (rest : List (PageResp α)) (acc : List (List α)) :
    pageLoop (some i) (p :: rest) i acc = (acc ++ [p.items], .callbackErr) := by
  rw [pageLoop, if_pos rfl]

end

/-- A well-formed chain of responses: every page but the last carries a next link. -/
def WellFormedChain {α : Type} : List (PageResp α) → Prop
  | [] => False
  | [p] => p.hasNext = false
  | p :: q :: rest => p.hasNext = true ∧ WellFormedChain (q :: rest)

theorem WellFormedChain.cons {α : Type} {p : PageResp α} {l : List (PageResp α)} (hp : p.hasNext = true)
    (h : WellFormedChain l) : WellFormedChain (p :: l) := by
  cases l with
  | nil => exact h.elim
  | cons q rest => exact ⟨hp, h⟩

theorem pageLoop_concat {α : Type} (pages : List (PageResp α)) (h : WellFormedChain pages) (i : Nat)
    (acc : List (List α)) : pageLoop none pages i acc = (acc ++ pages.map (·.items), .ok) := by
  fun_induction WellFormedChain pages generalizing i acc with
  | case1 => exact h.elim
  | case2 p => rw [pageLoop_last (cb := none) nofun h]; rfl
  | case3 p q rest ih => rw [pageLoop_next (cb := none) nofun h.1, ih h.2, List.append_assoc]; rfl

/-- **Every item exactly once, in the registry's order**: however the registry splits the
    result into pages (any number of pages, any page sizes, empty pages included), the
    concatenation of what the callback receives is the concatenation of the pages, each
    page delivered once, and the call succeeds. -/
theorem c15_concat {α : Type} (pages : List (PageResp α)) (h : WellFormedChain pages) :
    ((pageLoop none pages 0 []).1.flatten = (pages.map (·.items)).flatten) ∧
    (pageLoop none pages 0 []).2 = .ok := by
  rw [pageLoop_concat pages h 0 []]
  simp

/-- The registry side: any way of splitting the items after `last` into pages.  `sizes` are
    the sizes the registry chooses page by page (zero included: an empty page that still
    carries a next link); when it has no more sizes to choose it sends the rest.  Every page
    but the final one carries a next link. -/
def servePages {α : Type} : List Nat → List α → List (PageResp α)
  | [], l => [⟨l, false⟩]
  | s :: ss, l =>
    if l.length ≤ s then [⟨l, false⟩]
    else ⟨l.take s, true⟩ :: servePages ss (l.drop s)

theorem servePages_spec {α : Type} (sizes : List Nat) (l : List α) :
    WellFormedChain (servePages sizes l) ∧ ((servePages sizes l).map (·.items)).flatten = l := by
  fun_induction servePages sizes l with
  | case1 | case2 => exact ⟨rfl, List.append_nil _⟩
  | case3 s ss l _ ih =>
    exact ⟨.cons rfl ih.1, by rw [List.map_cons, List.flatten_cons, ih.2, List.take_append_drop]⟩

/-- **Every item the registry holds after `last` is delivered exactly once, in the
    registry's order, for any way the registry splits the result into pages**: client loop
    and registry model composed. -/
theorem c15_registry_chain_complete {α : Type} (sizes : List Nat) (itemsAfterLast : List α) :
    (pageLoop none (servePages sizes itemsAfterLast) 0 []).1.flatten = itemsAfterLast ∧
    (pageLoop none (servePages sizes itemsAfterLast) 0 []).2 = .ok := by
  obtain ⟨hw, hf⟩ := servePages_spec sizes itemsAfterLast
  have := c15_concat (servePages sizes itemsAfterLast) hw
  exact ⟨by rw [this.1, hf], this.2⟩

example : (pageLoop none (servePages [2, 0, 1] [10, 20, 30, 40, 50]) 0 []).1 = [[10, 20], [], [30], [40, 50]] := by
  decide

/-- **Stops at a failing callback and returns that failure**: nothing after page `k` is
    requested or delivered. -/
theorem c15_callback_error {α : Type} (pages : List (PageResp α)) (k : Nat) (hk : k < pages.length)
    (hnext : ∀ j, j < k → (pages[j]?).map (·.hasNext) = some true) :
    ∀ (i : Nat) (acc : List (List α)),
      pageLoop (some (i + k)) pages i acc = (acc ++ (pages.take (k + 1)).map (·.items), .callbackErr) := by
  induction pages generalizing k with
  | nil => simp at hk
  | cons p rest ih =>
    intro i acc
    cases k with
    | zero => rw [Nat.add_zero, pageLoop_fail]; rfl
    | succ k =>
      have h0 : p.hasNext = true := Option.some.inj (hnext 0 (Nat.succ_pos k))
      rw [pageLoop_next (fun e => by have := Option.some.inj e; omega) h0, show i + (k + 1) = i + 1 + k by omega,
        ih k (Nat.lt_of_succ_lt_succ hk) (fun j hj => hnext (j + 1) (Nat.succ_lt_succ hj)), List.append_assoc]
      rfl

/-- `last` travels with the first request only. -/
theorem c15_last_first_only (last : Str) (n : Nat) :
    ∀ j, 0 < j → j < n → (lastParams last n)[j]? = some [] := by
  intro j hj hn
  simp [lastParams, hn]
  omega

/-- **`parseLink`** accepts exactly headers of the form `<…>…` and returns the bracket
    contents. -/
theorem c15_parseLink (u rest : Str) (h : '>' ∉ u) :
    parseLink ('<' :: u ++ '>' :: rest) = .ok u := by
  simp [parseLink, splitFirst_append u rest h]

theorem c15_parseLink_rejects (link : Str) (u : Str) (h : parseLink link = .ok u) :
    ∃ rest, link = '<' :: u ++ '>' :: rest := by
  revert h
  fun_cases parseLink link <;> intro h
  -- the one path that returns a link
  case case3 hc _ r hs =>
    cases h
    exact ⟨r, by rw [Decidable.not_not.mp hc, (splitFirst_some hs).1]; rfl⟩
  all_goals cases h

def PrefixStable {β γ : Type} (dec : List β → Option γ) : Prop :=
  ∀ (b : List β) (n : Nat) (v : γ), dec (b.take n) = some v → dec b = some v

/-- **Never over-read**: at most `limit` bytes are taken; and with a decoder that reads one
    value and stops (`PrefixStable`), decoding the limited body gives an error or exactly
    the value the whole body decodes to — never a truncated result. -/
theorem c15_limit {β γ : Type} (dec : List β → Option γ) (hd : PrefixStable dec) (limit : Nat) (body : List β) :
    (limitRead limit body).length ≤ limit ∧
    (dec (limitRead limit body) = none ∨ dec (limitRead limit body) = dec body) := by
  refine ⟨by simp [limitRead]; omega, ?_⟩
  cases h : dec (limitRead limit body) with
  | none => exact Or.inl rfl
  | some v => exact Or.inr (hd body limit v h).symm

/-- **OCI layout `Tags`**: sorted, duplicate-free, exactly the tags greater than `last`. -/
theorem c15_listTags (tags : List Str) (last t : Str) :
    (t ∈ listTags tags last ↔ (t ∈ tags ∧ (last = [] ∨ strLt last t = true))) ∧
    SSorted strLt (listTags tags last) := by
  unfold listTags
  refine ⟨?_, ssorted_canon strLt_strictTotal _⟩
  rw [mem_canon]
  simp only [List.mem_filter, Bool.or_eq_true, List.isEmpty_iff]

/-- Non-vacuity. -/
example :
    let pages : List (PageResp Nat) := [⟨[1, 2], true⟩, ⟨[], true⟩, ⟨[3], false⟩, ⟨[99], false⟩]
    pageLoop none pages 0 [] = ([[1, 2], [], [3]], .ok) ∧
    pageLoop (some 1) pages 0 [] = ([[1, 2], []], .callbackErr) ∧
    parseLink "</v2/x/tags/list?last=b&n=2>; rel=\"next\"".toList = .ok "/v2/x/tags/list?last=b&n=2".toList := by
  refine ⟨by rfl, by rfl, ?_⟩
  -- a string literal is `String.ofList` of its characters (evaluating `toList` on it is slow)
  rw [String.toList_ofList, String.toList_ofList]
  rfl

end Oras.Props.C15
