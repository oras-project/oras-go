/-
  C04, continued — the permit accounting of the limiter (`Model/Permits.lean`).  Property
  theorems only; the invariant is proved in `Proofs/Permits.lean` for any number of regions
  and every interleaving of `Start`, `End` and operations.
-/
import OrasModel.Proofs.Permits
namespace Oras.Props.C04
open Oras

/-- **Permits are conserved**: in every reachable state the permits left in the semaphore
    plus the regions currently started add up to `Concurrency` — so the semaphore is never
    over-released (a second `End` is a no-op) and never leaks a permit. -/
theorem c04_permits (limit : Nat) (s : PermitSt) (h : PermitReach limit s) :
    s.avail + holders s.regions = limit ∧ s.avail ≤ limit ∧ holders s.regions ≤ limit := by
  have := (permitInv_reach h).conserve
  omega

/-- **At most `Concurrency` operations are in flight**: every source read and destination
    operation runs inside a started region, so their number never exceeds the permits. -/
theorem c04_ops_hold_permit (limit : Nat) (s : PermitSt) (h : PermitReach limit s) :
    inFlight s.regions ≤ limit := by
  have inv := permitInv_reach h
  have hle : inFlight s.regions ≤ holders s.regions :=
    List.countP_mono_left fun r hr hb => by rw [inv.busyHolds r hr hb]; rfl
  have := inv.conserve
  omega

/-- Non-vacuity: with `Concurrency = 1`, one region starts and works; a second region cannot
    start until the first has ended. -/
example : ∃ s : PermitSt, PermitReach 1 s ∧ s.avail = 0 ∧ inFlight s.regions = 1 ∧ s.regions.length = 2 :=
  ⟨_, .step (.step (.step (.step .init
    (.spawn _))
    (.spawn _))
    (.start _ 0 ⟨true, false⟩ rfl rfl (by decide)))
    (.beginOp _ 0 ⟨false, false⟩ rfl rfl rfl), rfl, rfl, rfl⟩

end Oras.Props.C04
