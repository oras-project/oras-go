/-
  C14, end to end — no acknowledged referrers-index update is lost, for any number of
  concurrent callers and every interleaving of the batching protocol with the index
  read / apply / push it protects (`Model/MergeIdx.lean`).  The invariant of the composed
  system is in `Proofs/MergeIdx.lean`.
-/
import OrasModel.Proofs.MergeIdx
namespace Oras.Props.C14
open Oras

/-- **No acknowledged update is lost.**  In every reachable state of the batching protocol
    composed with the index it maintains — any number of callers, any interleaving, failing
    `prepare`s and failing or half-applied `resolve`s, an initial index with duplicates or
    empty entries — a caller whose `Do` returned success has its change reflected in the
    stored index: an added referrer is listed unless some caller removes that referrer, a
    removed referrer is not listed unless some caller adds it. -/
theorem c14_no_lost_update (chg : Nat → RChange) (hwf : ∀ i d, chg i = .add d → d.key ≠ 0)
    (idx0 : List RDesc) (x : MI) (h : MIReach chg idx0 x) (j b : Nat) (hj : x.m.pc j = .done b true) :
    match chg j with
    | .add d => (∀ i d', chg i = .remove d' → d'.key ≠ d.key) → hasKey x.idx d.key = true
    | .remove d => (∀ i d', chg i = .add d' → d'.key ≠ d.key) → hasKey x.idx d.key = false := by
  have := (miInv_reach chg idx0 x h).acked j b hj
  unfold Eff at this
  -- callers naming the same referrer agree with `j` when none does the opposite
  cases hc : chg j with
  | add d =>
    rw [hc] at this
    exact fun hno => this (fun _ => hwf j d hc) fun i e => RChange.isAdd_of_no_remove (hno i) e
  | remove d =>
    rw [hc] at this
    exact fun hno => this nofun fun i e => RChange.not_isAdd_of_no_add (hno i) e

/-- **The index a main applies its batch to is the stored one**: between the read in
    `prepare` and the write in `resolve` nobody else writes. -/
theorem c14_read_is_current (chg : Nat → RChange) (hwf : ∀ i d, chg i = .add d → d.key ≠ 0)
    (idx0 : List RDesc) (x : MI) (h : MIReach chg idx0 x) (i : Nat) (hi : x.m.pc i = .resolving x.m.cur) :
    x.snap = x.idx :=
  (miInv_reach chg idx0 x h).snapOk i hi

/-- Non-vacuity: caller 0 adds referrer 5 and caller 1 removes referrer 2; 1 arrives while 0
    prepares, both are merged into batch 0, which is applied to the index `[2]` that 0 read.
    Both are acknowledged, and the stored index is `[5]`. -/
example :
    let chg : Nat → RChange := fun i => if i = 0 then .add ⟨5, 50⟩ else .remove ⟨2, 0⟩
    ∃ x : MI, MIReach chg [⟨2, 20⟩] x ∧ x.m.pc 0 = .done 0 true ∧ x.m.pc 1 = .done 0 true ∧ x.idx = [⟨5, 50⟩] := by
  intro chg
  exact ⟨_, .step (.step (.step (.step (.step .init
    (.assignOpen _ 0 rfl rfl))
    (.takeMain _ 0 rfl rfl))
    (.assignOpen _ 1 rfl rfl))
    (.prepareOk _ 0 rfl))
    (.resolveOk _ 0 rfl), rfl, rfl, by decide⟩

end Oras.Props.C14
