/-
  C08 — tarfs finds every entry of an archive whatever extension records it carries
  (`Model/TarOff.lean`).
-/
import OrasModel.Model.TarOff
import OrasModel.Gen.Facts
namespace Oras.Props.C08
open Oras Oras.TarOff

/-- **The recorded position is the entry's own header block**, for every archive: any number
    of entries, each with any number of extension records of any sizes.  A reader started there
    parses a plain header and stands at the same payload. -/
theorem c08_tarfs_recorded_is_header (start : Nat) (es : List TEnt) : recorded start es = headerOffs start es := by
  simp only [recorded, dataOffs, List.map_map, Function.comp_def, Nat.add_sub_cancel, List.map_id']

theorem padded_mod (n : Nat) : padded n % 512 = 0 := by unfold padded; omega

theorem extLen_mod (e : TEnt) : extLen e % 512 = 0 := by
  unfold extLen
  induction e.ext with
  | nil => rfl
  | cons a t ih =>
    have := padded_mod a
    have : blockSize = 512 := rfl
    simp only [List.map_cons, List.sum_cons]
    omega

theorem entLen_mod (e : TEnt) : entLen e % 512 = 0 := by
  have := extLen_mod e
  have := padded_mod e.size
  have : blockSize = 512 := rfl
  unfold entLen
  omega

/-- Positions are block-aligned when the archive starts block-aligned. -/
theorem c08_tarfs_aligned : ∀ (es : List TEnt) (start : Nat), start % 512 = 0 →
    ∀ p ∈ headerOffs start es, p % 512 = 0 := by
  intro es
  induction es with
  | nil => intro _ _ p hp; cases hp
  | cons e rest ih =>
    intro start hs p hp
    rcases List.mem_cons.mp hp with h | h
    · have := extLen_mod e
      omega
    · have := entLen_mod e
      exact ih (start + entLen e) (by omega) p h

/-- Offsets computed from the payload sizes alone are right exactly as long as no entry has
    an extension record ... -/
theorem c08_tarfs_arith_without_ext : ∀ (es : List TEnt) (start : Nat), (∀ e ∈ es, e.ext = []) →
    arithOffs start es = headerOffs start es := by
  intro es
  induction es with
  | nil => intro _ _; rfl
  | cons e rest ih =>
    intro start h
    have he : e.ext = [] := h e List.mem_cons_self
    have h0 : extLen e = 0 := by unfold extLen; rw [he]; rfl
    have h1 : entLen e = blockSize + padded e.size := by unfold entLen; rw [h0]; omega
    simp only [arithOffs, headerOffs, h0, h1, Nat.add_zero]
    rw [ih _ (fun x hx => h x (List.mem_cons_of_mem _ hx))]
    congr 2
    omega

/-- ... and wrong as soon as one has (the seeded change C08/m8). -/
theorem c08_tarfs_counterexample_arith :
    arithOffs 0 [⟨[40], 10⟩, ⟨[], 3⟩] ≠ headerOffs 0 [⟨[40], 10⟩, ⟨[], 3⟩] := by
  decide

/-- The source records the reader's position after `Next`, minus one block. -/
theorem c08_tarfs_source_facts :
    Gen.tarfsIndexPos = ["tarFile.Seek(0, io.SeekCurrent)", "pos - blockSize"] ∧ Gen.tarfsBlockSize = 512 :=
  ⟨rfl, rfl⟩

end Oras.Props.C08
