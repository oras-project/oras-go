/-
  C09 — OCI Delete / auto-GC / GC remove exactly the garbage, keep live data, terminate.
  Model: `Model/Oci.lean`; helpers: `Proofs/Oci*.lean`; source facts: `Gen/Facts.lean`.
-/
import OrasModel.Proofs.OciDelete
import OrasModel.Proofs.OciTags
import OrasModel.Proofs.OciCascade
import OrasModel.Proofs.OciGc
import OrasModel.Gen.Facts
namespace Oras.Props.C09
open Oras Oras.OciSt

/-- The invariants the theorems assume hold in every reachable store state. -/
theorem c09_invariants_init : RefUniq OciSt.empty ∧ RefTagInv OciSt.empty := by
  constructor
  · simp [RefUniq, OciSt.empty]
  · intro e he; simp [OciSt.empty] at he

theorem c09_invariants_tag (st : OciSt) (n : Node) (a : Nat) (k : RefKey)
    (hu : RefUniq st) (hi : RefTagInv st) :
    RefUniq (st.resolverTag n a k) ∧ RefTagInv (st.resolverTag n a k) :=
  ⟨refUniq_resolverTag st n a k hu, refTagInv_resolverTag st n a k hi⟩

/-- The tag sets `isTagged` reads are exact in every reachable state: they start exact and
    `Tag`, `Untag` and `Store.delete` keep them exact. -/
theorem c09_tags_exact_reachable :
    TagsExact OciSt.empty ∧
    (∀ st n a k, TagsExact st → TagsExact (st.resolverTag n a k)) ∧
    (∀ st k, TagsExact st → TagsExact (st.resolverUntag k)) ∧
    (∀ st n, TagsExact st → TagsExact (st.deleteOne n).1) :=
  ⟨tagsExact_empty, tagsExact_resolverTag, tagsExact_resolverUntag, tagsExact_deleteOne⟩

/-- **`isTagged n` holds exactly when some reference other than `n`'s own digest points to
    `n`** — so the cascade spares exactly the nodes that carry a tag.  (Before the repair of
    F16 only the `←` direction held.) -/
theorem c09_isTagged_exact (st : OciSt) (n : Node) (hi : RefTagInv st) (hx : TagsExact st) :
    st.isTagged n = true ↔ ∃ k a, k ≠ RefKey.dig n ∧ st.lookupRef k = some (n, a) := by
  constructor
  · intro h
    obtain ⟨k, hk, hne⟩ := exists_of_isTagged st n (hx.2 n) h
    obtain ⟨a, ha⟩ := hx.1 n k hk
    exact ⟨k, a, hne, ha⟩
  · rintro ⟨k, a, hne, hl⟩
    exact isTagged_of_mem st n k (hi _ (mem_of_lookup st k (n, a) hl)) hne

/-- F16 as found: with the resolver as it was written, a name moved from node 2 to node 0
    still counts as a tag of node 2, which no reference points to any more; the repaired
    resolver reports it untagged. -/
theorem c09_counterexample_stale_tag :
    let stale := (OciSt.empty.resolverTagStale 2 0 (.tag 5)).resolverTagStale 0 0 (.tag 5)
    let fixed := (OciSt.empty.resolverTag 2 0 (.tag 5)).resolverTag 0 0 (.tag 5)
    stale.isTagged 2 = true ∧ stale.lookupRef (.tag 5) = some (0, 0) ∧ (∀ e ∈ stale.refs, e.2.1 ≠ 2) ∧
    fixed.isTagged 2 = false ∧ fixed.isTagged 0 = true := by
  decide

/-- One `Store.delete` removes the content (if present) and every reference pointing at it. -/
theorem c09_delete_removes_target (st : OciSt) (n : Node) (hu : RefUniq st) (hi : RefTagInv st) :
    (∀ e ∈ (st.deleteOne n).1.refs, e.2.1 ≠ n) ∧
    (∀ k v, st.lookupRef k = some v → v.1 ≠ n → (st.deleteOne n).1.lookupRef k = some v) := by
  constructor
  · intro e he
    have := lookup_of_mem _ (refUniq_deleteOne st n hu) e.1 e.2 he
    rw [lookupRef_deleteOne st n hu, Option.filter_eq_some_iff] at this
    simpa using this.2
  · intro k v hl hv
    rw [lookupRef_deleteOne st n hu, hl]
    simp [Option.filter, hv]

/-- Loop invariant consequence: **every reference name that pointed to a node other than
    the deletion target before `Delete` still points to it afterwards, and that node's
    content is still stored** — whatever the cascade did, and also when it stopped with an
    error.  Requires the referrer filter (repair of F2). -/
theorem c09_cascade_keeps_tagged (c : OciCfg) (skipAbsent : Bool) (n0 : Node) :
    ∀ (fuel : Nat) (q seen : List Node) (st : OciSt),
      RefUniq st → RefTagInv st → (∀ d ∈ q, d = n0 ∨ NoTagRef st d) →
      ∀ (nm : Nat) (m : Node) (a : Nat),
        st.lookupRef (.tag nm) = some (m, a) → m ≠ n0 → m ∈ st.blobs →
        (deleteLoop c true skipAbsent fuel q seen st).1.lookupRef (.tag nm) = some (m, a) ∧
        m ∈ (deleteLoop c true skipAbsent fuel q seen st).1.blobs := by
  intro fuel q seen st hu hi hq nm m a h1 h2 h3
  -- the head of the queue is never `m`; deleting anything else keeps the name and the content
  have keep : ∀ {h q} {st : OciSt}, RefUniq st → (∀ d ∈ h :: q, d = n0 ∨ NoTagRef st d) →
      st.lookupRef (.tag nm) = some (m, a) ∧ m ∈ st.blobs →
      (st.deleteOne h).1.lookupRef (.tag nm) = some (m, a) ∧ m ∈ (st.deleteOne h).1.blobs := by
    intro h q st hu hq hm
    have hne : m ≠ h := by
      rintro rfl
      rcases hq m List.mem_cons_self with e | e
      · exact h2 e
      · exact e _ (mem_of_lookup st _ _ hm.1) rfl nm rfl
    rw [lookupRef_deleteOne st h hu, hm.1, blobs_deleteOne]
    exact ⟨by simp [Option.filter, hne], (List.mem_erase_of_ne hne).mpr hm.2⟩
  refine deleteLoop_induct c true skipAbsent
    (P := fun q _ st => (RefUniq st ∧ RefTagInv st ∧ ∀ d ∈ q, d = n0 ∨ NoTagRef st d) ∧
      st.lookupRef (.tag nm) = some (m, a) ∧ m ∈ st.blobs)
    (Q := fun r => r.1.lookupRef (.tag nm) = some (m, a) ∧ m ∈ r.1.blobs)
    ?_ ?_ ?_ ?_ ?_ fuel q seen st ⟨⟨hu, hi, hq⟩, h1, h3⟩
  · exact fun _ _ _ _ hP => hP.2
  · exact fun _ _ hP => hP.2
  · exact fun h q _ st hP _ =>
      ⟨⟨hP.1.1, hP.1.2.1, fun d hd => hP.1.2.2 d (List.mem_cons_of_mem _ hd)⟩, hP.2⟩
  · exact fun _ _ _ _ hP => hP.2
  · intro h q _ st rs ⟨⟨hu, hi, hq⟩, hm⟩ _
    refine ⟨⟨refUniq_deleteOne st h hu, refTagInv_deleteOne st h hi, fun d hd => ?_⟩, keep hu hq hm⟩
    rcases List.mem_append.mp hd with hd | hd
    · exact (hq d (List.mem_cons_of_mem _ hd)).imp_right (·.deleteOne h)
    · exact .inr (noTagRef_of_mem_queued hi hd)

/-- `Delete target`: **never another node's tag, never a tagged node** (other than the
    target itself) — the user-facing corollary. -/
theorem c09_delete_keeps_other_tags (c : OciCfg) (skipAbsent : Bool) (st : OciSt) (n : Node) (fuel : Nat)
    (hu : RefUniq st) (hi : RefTagInv st) (nm : Nat) (m : Node) (a : Nat)
    (h1 : st.lookupRef (.tag nm) = some (m, a)) (h2 : m ≠ n) (h3 : m ∈ st.blobs) :
    (st.delete c true skipAbsent n fuel).1.lookupRef (.tag nm) = some (m, a) ∧
    m ∈ (st.delete c true skipAbsent n fuel).1.blobs :=
  c09_cascade_keeps_tagged c skipAbsent n fuel [n] [] st hu hi
    (fun d hd => Or.inl (by simpa using hd)) nm m a h1 h2 h3

/-- Non-vacuity and the F2 scenario: a tagged referrer survives the deletion of its
    subject with the filter, and is deleted without it. -/
example :
    let c : OciCfg := { succ := fun n => if n = 1 then [0] else if n = 2 then [1, 0] else [],
                        isMan := fun n => n == 1 || n == 2,
                        subject := fun n => if n = 2 then some 1 else none }
    let s := (((((OciSt.empty.push c 0).1).push c 1).1.push c 2).1.tag 2 0 (some (.tag 5))).1
    (s.delete c true true 1 50).1.blobs = [2, 0] ∧ (s.delete c false true 1 50).1.blobs = [] := by
  decide

/-- **Every node the cascade processes is justified**: it is the deletion target, or a
    referrer (its subject is a node the cascade processed), or it has no predecessor left in
    the graph — for every store state, target, fuel and outcome (also when the cascade stops
    with an error), and with respect to the graph the call leaves behind. -/
theorem c09_cascade_justified (c : OciCfg) (skipTagged skipAbsent : Bool) (st : OciSt) (n : Node) (fuel : Nat) :
    let r := st.delete c skipTagged skipAbsent n fuel
    ∀ d ∈ r.2.2, d = n ∨ (∃ s ∈ r.2.2, c.subject d = some s) ∨ r.1.graph.predecessors d = [] :=
  deleteLoop_justified c skipTagged skipAbsent n fuel [n] [] st
    (fun _ hd => Or.inl (List.mem_singleton.mp hd)) (fun _ hd => nomatch hd)

/-- **Never a node a surviving node still links to** (for the nodes removed because they
    lost their last predecessor): if the graph is exact for what is left in the store —
    which C07 proves for every history of pushes and removals — then no stored manifest
    links to a node the cascade removed under that rule. -/
theorem c09_no_surviving_link (c : OciCfg) (skipTagged skipAbsent : Bool) (st : OciSt) (n : Node) (fuel : Nat)
    (hexact : ∀ p d, p ∈ (st.delete c skipTagged skipAbsent n fuel).1.blobs → c.isMan p = true → d ∈ c.succ p →
      p ∈ (st.delete c skipTagged skipAbsent n fuel).1.graph.predecessors d)
    (d : Node) (hd : d ∈ (st.delete c skipTagged skipAbsent n fuel).2.2) (hne : d ≠ n)
    (hnoref : ¬ ∃ s ∈ (st.delete c skipTagged skipAbsent n fuel).2.2, c.subject d = some s) :
    ∀ p ∈ (st.delete c skipTagged skipAbsent n fuel).1.blobs, c.isMan p = true → d ∉ c.succ p := by
  intro p hp hm hin
  have hj := c09_cascade_justified c skipTagged skipAbsent st n fuel d hd
  rcases hj with e | e | e
  · exact hne e
  · exact hnoref e
  · have := hexact p d hp hm hin
    rw [e] at this; cases this

/-- **One step of the cascade queues everything it owes**: when `Delete` has removed a node
    `h`, (a) every stored predecessor of `h` whose subject is `h` is among the referrers it
    considers (a referrer whose bytes are missing makes the listing — and the call — fail
    instead), and (b) every graph successor of `h` that is left without a predecessor is among
    the danglings `Remove` reports.  The loop appends the untagged ones of both lists to its
    queue and returns success only with an empty queue, popping a queued node either deletes
    it or finds it already gone: together with `c09_cascade_justified` (nothing else is
    removed) this is the "exactly" of the statement, step by step. -/
theorem c09_cascade_step_complete (c : OciCfg) (st st' : OciSt) (h : Node) (rs dang : List Node)
    (hr : referrers c st h = some rs) (hd : st.deleteOne h = (st', .ok dang)) :
    (∀ p ∈ st.graph.predecessors h, c.subject p = some h → p ∈ rs ∧ p ∈ st.blobs) ∧
    (∀ d ∈ st.graph.succs h, st.graph.nodes d = true → st'.graph.preds d = [] → d ∈ dang) := by
  obtain ⟨rfl, hst⟩ := referrers_eq_some c st h rs hr
  refine ⟨fun p hp hs => ⟨List.mem_filter.mpr ⟨hp, by simpa using hs⟩, hst p hp (by simp [hs])⟩, ?_⟩
  intro d hs hn he
  have h1 : st' = (st.deleteOne h).1 := by rw [hd]
  have h2 := deleteOne_snd st h
  rw [hd] at h2
  split at h2 <;> cases h2
  rw [h1, graph_deleteOne] at he
  exact (GMem.mem_danglings _ _ _).mpr ⟨hs, he, hn⟩

/-- **The cascade is complete**: when `Delete` with auto-GC succeeds, no stored untagged node
    is left that lost — through this call — the manifest it refers to (its subject was stored
    before the call and is gone now) or its last predecessor (it had predecessors before the
    call and has none now).  For every graph, every target, any fuel with which the call
    succeeds.  With `c09_cascade_justified` (nothing else is removed) and
    `c09_cascade_keeps_tagged` this is the "exactly" of the statement.  `CInv`: references are
    unique, tag sets are exact and duplicate-free, no blob is stored twice — the invariants of
    every reachable state (`c09_invariants_init`, `c09_invariants_tag`,
    `c09_tags_exact_reachable`; `Push` refuses content that is present). -/
theorem c09_cascade_complete (c : OciCfg) (st : OciSt) (n : Node) (fuel : Nat)
    (hgc : st.autoGC = true) (hI : CInv st)
    (hok : (st.delete c true true n fuel).2.1 = .ok ()) :
    ∀ x, ¬ Owes c st (st.delete c true true n fuel).1 x := by
  refine deleteLoop_complete c true true st fuel [n] [] st hgc hI.uniq hI.nodup ?_ hok
  -- nothing is owed before the call
  rintro x ⟨_, _, ⟨s, _, _, _, hs0, hs1⟩ | ⟨_, hp0, hp1⟩⟩
  · exact absurd hs0 hs1
  · exact absurd hp1 hp0

/-- Non-vacuity of `c09_cascade_complete`: a tagged manifest 9 over a layer 1 — the invariants
    hold, `Delete 9` with auto-GC succeeds, and the layer, which lost its last predecessor, is
    gone as well. -/
example :
    let c : OciCfg := ⟨fun n => if n = 9 then [1] else [], fun n => n == 9, fun _ => none⟩
    let st : OciSt := { OciSt.empty with
      blobs := [9, 1], refs := [(.tag 0, 9, 0), (.dig 9, 9, 0)],
      tagsOf := fun m => if m = 9 then [.dig 9, .tag 0] else [],
      graph := (GMem.empty.index 1 []).index 9 [1] }
    CInv st ∧ st.autoGC = true ∧ (st.delete c true true 9 5).2.1 = .ok () ∧ (st.delete c true true 9 5).1.blobs = [] := by
  -- (no `intro`: evaluating `Delete` is cheap only while `c` and `st` are not local definitions)
  refine ⟨⟨by unfold RefUniq; decide, by unfold RefTagInv; decide, ⟨fun n k hk => ?_, fun n => ?_⟩, by decide⟩,
    rfl, rfl, rfl⟩
  · change k ∈ (if n = 9 then _ else _) at hk
    split at hk
    · next h9 =>
      subst h9
      rcases List.mem_cons.mp hk with rfl | hk
      · exact ⟨0, rfl⟩
      · cases List.mem_singleton.mp hk; exact ⟨0, rfl⟩
    · cases hk
  · change (if n = 9 then _ else _ : List RefKey).Nodup
    split <;> decide

/-- **The subject walk of `gcIndex` terminates**: along an acyclic subject relation (rank
    function `rk`), fuel `rk n + 1` is always enough — the walk never reports `hang`. -/
theorem c09_gc_walk_terminates (c : OciCfg) (blobs : List Node) (g : GMem) (rk : Node → Nat)
    (hrk : ∀ n s, c.subject n = some s → rk s < rk n) :
    ∀ (fuel : Nat) (n : Node), rk n < fuel → gcWalk c blobs g fuel n ≠ .error .hang := by
  intro fuel
  induction fuel with
  | zero => intro n h; omega
  | succ fuel ih =>
    intro n h
    rw [gcWalk]
    cases hs : c.subject n with
    | none => nofun
    | some s =>
      -- the walk stops, or goes on from the subject, whose rank is smaller
      dsimp only
      split
      · nofun
      · split
        · exact ih s (Nat.lt_of_lt_of_le (hrk n s hs) (Nat.le_of_lt_succ h))
        · nofun

/-- The walk **as it was written before the repair of F1** diverges whenever the entry's
    subject is not yet in the graph: the shadowed loop variable is never advanced. -/
theorem c09_gc_walk_shadowed_diverges (c : OciCfg) (g : GMem) (n s : Node)
    (hs : c.subject n = some s) (hg : g.exists_ s = false) :
    gcWalkBuggy c g n = .error .hang := by
  simp [gcWalkBuggy, hs, hg]

/-- **`GC` never removes live content**: when `Store.GC` succeeds, every stored blob or
    manifest reachable from a tagged manifest through stored manifests is still stored —
    for the repaired and the shadowed subject walk, one referrer pass or the fixed point,
    with or without the index save.  (`rk` witnesses acyclicity of the stored DAG; the fuel
    of the depth-first indexing is above the rank of every tagged manifest.) -/
theorem c09_gc_keeps_tagged_closure (c : OciCfg) (fixed repeatPass saveAfter : Bool) (st : OciSt)
    (rk : Node → Nat) (hrk : GMem.RankOK (succOf c st.blobs) rk) (fuel : Nat)
    (hf : ∀ e ∈ st.gcNamed, rk e.2.1 < fuel)
    (hok : (st.gc c fixed repeatPass saveAfter fuel).2 = .ok ()) :
    ∀ e ∈ st.gcNamed, ∀ m, GMem.ReachOf (succOf c st.blobs) e.2.1 m → m ∈ st.blobs →
      m ∈ (st.gc c fixed repeatPass saveAfter fuel).1.blobs := by
  intro e he m hreach hm
  obtain ⟨s, hg⟩ := gcIndex_of_gc_ok hok
  obtain ⟨ss, hss⟩ : ∃ ss, succOf c st.blobs m = some ss := by
    cases hman : c.isMan m
    · exact ⟨[], (succOf_eq_some ..).mpr (.inr ⟨hman, rfl⟩)⟩
    · exact ⟨_, (succOf_eq_some ..).mpr (.inl ⟨hman, hm, rfl⟩)⟩
  have hk := gcIndex_keeps c fixed repeatPass st s rk hrk fuel hf hg
  rw [(gc_of_ok hg saveAfter).2.1]
  exact List.mem_filter.mpr ⟨hk.1 ▸ hm, hk.2 e he m ss hreach hss⟩

/-- … and what `GC` leaves is exactly the stored part of the rebuilt graph: a blob that is
    not a node of the new index is removed. -/
theorem c09_gc_sweeps_unindexed (c : OciCfg) (fixed repeatPass saveAfter : Bool) (st s : OciSt) (fuel : Nat)
    (hg : gcIndex c fixed repeatPass st fuel = .ok s) :
    ∀ b, b ∈ (st.gc c fixed repeatPass saveAfter fuel).1.blobs ↔ (b ∈ s.blobs ∧ s.graph.nodes b = true) := by
  intro b
  rw [(gc_of_ok hg saveAfter).2.1]
  exact List.mem_filter

/-- Non-vacuity: a tagged manifest 9 with layers 1 and 2 and an orphan blob 3 — the
    hypotheses of `c09_gc_keeps_tagged_closure` hold (`GC` succeeds, rank 1 for the manifest)
    and layer 1 is still stored afterwards. -/
example :
    let c : OciCfg := ⟨fun n => if n = 9 then [1, 2] else [], fun n => n == 9, fun _ => none⟩
    let st : OciSt := { OciSt.empty with blobs := [9, 3, 2, 1], refs := [(.tag 0, 9, 0), (.dig 9, 9, 0)] }
    (st.gc c true true true 5).2 = .ok () ∧ 1 ∈ (st.gc c true true true 5).1.blobs := by
  intro c st
  have hok : (st.gc c true true true 5).2 = .ok () := rfl
  have hrk : GMem.RankOK (succOf c st.blobs) (fun n => if n = 9 then 1 else 0) :=
    rankOK_succOf c st.blobs _ (by decide)
  have hnamed : ∀ e ∈ st.gcNamed, e = (.tag 0, 9, 0) := fun e he => by simpa [st, gcNamed] using he
  refine ⟨hok, c09_gc_keeps_tagged_closure c true true true st _ hrk 5 (fun e he => hnamed e he ▸ by decide) hok
    (.tag 0, 9, 0) (by simp [st, gcNamed]) 1 ?_ (by simp [st])⟩
  exact .step (ss := [1, 2]) .refl rfl List.mem_cons_self

/-- **`GC` removes all garbage**: when `Store.GC` succeeds, every blob it leaves is live —
    reachable from a tagged manifest, or from an index entry whose subject chain ends in a
    live node.  With `c09_gc_keeps_tagged_closure` this brackets the kept set from both
    sides. -/
theorem c09_gc_removes_garbage (c : OciCfg) (fixed repeatPass saveAfter : Bool) (st : OciSt) (fuel : Nat)
    (hok : (st.gc c fixed repeatPass saveAfter fuel).2 = .ok ()) :
    ∀ b ∈ (st.gc c fixed repeatPass saveAfter fuel).1.blobs, GcLive c st b := by
  intro b hb
  obtain ⟨s, hg⟩ := gcIndex_of_gc_ok hok
  rw [(gc_of_ok hg saveAfter).2.1] at hb
  exact gcIndex_sound c fixed repeatPass st s fuel hg b (List.mem_filter.mp hb).2

/-- Non-vacuity: with a tagged manifest 9 over layers 1 and 2 and an orphan blob 3, `GC`
    removes 3 (it is not live). -/
example :
    let c : OciCfg := ⟨fun n => if n = 9 then [1, 2] else [], fun n => n == 9, fun _ => none⟩
    let st : OciSt := { OciSt.empty with blobs := [9, 3, 2, 1], refs := [(.tag 0, 9, 0), (.dig 9, 9, 0)] }
    3 ∉ (st.gc c true true true 5).1.blobs := by
  intro c st hmem
  -- were 3 still there it would be live; but only 9, 1 and 2 can be reached from the tagged entry
  have hreach : ∀ x, GMem.ReachOf (succOf c st.blobs) 9 x → x = 9 ∨ x = 1 ∨ x = 2 := by
    intro x hx
    induction hx with
    | refl => exact .inl rfl
    | @step m k ss _ hs hk _ =>
      rcases (succOf_eq_some ..).mp hs with ⟨hm, _, rfl⟩ | ⟨_, rfl⟩
      · obtain rfl : m = 9 := by simpa [c] using hm
        exact .inr (by simpa [c] using hk)
      · cases hk
  cases c09_gc_removes_garbage c true true true st 5 rfl 3 hmem with
  | tagged he hr =>
    obtain rfl : _ = (RefKey.tag 0, 9, 0) := by simpa [st, gcNamed] using he
    simpa using hreach 3 hr
  | referrer _ hc _ _ =>
    -- nothing has a subject
    cases hc with
    | one h => simp [c] at h
    | more h _ _ => simp [c] at h

/-- **`GC` keeps every name**: whether `Store.GC` succeeds or fails, every reference name
    resolves afterwards to what it resolved to before - however many names one manifest
    carries (the collection rebuilds the resolver from the named entries and only adds digest
    entries). -/
theorem c09_gc_keeps_names (c : OciCfg) (fixed repeatPass saveAfter : Bool) (st : OciSt) (fuel : Nat)
    (hu : RefUniq st) (t : Nat) :
    (st.gc c fixed repeatPass saveAfter fuel).1.lookupRef (.tag t) = st.lookupRef (.tag t) :=
  gc_names c fixed repeatPass saveAfter st fuel hu t

/-- Non-vacuity: one manifest under two names, and a third name that is not set. -/
example :
    let c : OciCfg := ⟨fun n => if n = 9 then [1] else [], fun n => n == 9, fun _ => none⟩
    let st : OciSt := { OciSt.empty with blobs := [9, 1], refs := [(.tag 0, 9, 0), (.tag 1, 9, 2), (.dig 9, 9, 0)] }
    RefUniq st ∧ (st.gc c true true true 5).1.lookupRef (.tag 0) = some (9, 0) ∧
      (st.gc c true true true 5).1.lookupRef (.tag 1) = some (9, 2) ∧
      (st.gc c true true true 5).1.lookupRef (.tag 2) = none := by
  intro c st
  have hu : RefUniq st := by unfold RefUniq; decide
  refine ⟨hu, ?_, ?_, ?_⟩
  · rw [c09_gc_keeps_names c true true true st 5 hu 0]; rfl
  · rw [c09_gc_keeps_names c true true true st 5 hu 1]; rfl
  · rw [c09_gc_keeps_names c true true true st 5 hu 2]; rfl

/-- The current source advances the walk, filters referrers by `isTagged`, skips absent
    cascade entries and saves the index after GC (facts re-extracted on every run). -/
theorem c09_source_facts :
    Gen.gcWalkAdvances = true ∧ Gen.deleteIsTaggedCalls ≥ 2 ∧ Gen.deleteSkipsAbsent = true ∧
    Gen.gcSavesIndex = true ∧ Gen.tagDropsStale = true ∧ Gen.gcRepeatsReferrerPass = true :=
  ⟨rfl, by decide, rfl, rfl, rfl, rfl⟩

end Oras.Props.C09
