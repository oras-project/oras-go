/-
  C14 — the flow around one referrers tag, fault by fault (`Model/RefFlow.lean`): the listing
  never names a manifest that is gone, a `Delete` leaves listing = stored referrers whatever
  fault is injected, the clean-up error is reported only after the update took effect, and
  superseded indexes do not pile up.  The order of calls and the two repaired error paths are
  regenerated from the source (`c14_flow_source_facts`).
-/
import OrasModel.Proofs.RefFlow
import OrasModel.Gen.Facts
namespace Oras.Props.C14
open Oras Oras.RefFlow

/-- The listing names exactly the stored referrers, each once. -/
structure Consistent (r : Reg) : Prop where
  same : ∀ k, k ∈ r.listed ↔ k ∈ r.live
  liveNodup : r.live.Nodup
  listedNodup : r.listed.Nodup

/-- The listing names stored referrers only, each once (what survives a refused `Push`, whose
    manifest is stored while the index could not be updated - the caller was told). -/
structure Sound (r : Reg) : Prop where
  sub : ∀ k, k ∈ r.listed → k ∈ r.live
  liveNodup : r.live.Nodup
  listedNodup : r.listed.Nodup

theorem Consistent.sound {r : Reg} (h : Consistent r) : Sound r :=
  ⟨fun k hk => (h.same k).mp hk, h.liveNodup, h.listedNodup⟩

theorem Consistent.of_sound {r : Reg} (h : Sound r) (hl : ∀ k, k ∈ r.live → k ∈ r.listed) : Consistent r :=
  ⟨fun k => ⟨h.sub k, hl k⟩, h.liveNodup, h.listedNodup⟩

theorem Sound.insert {r r' : Reg} (h : Sound r) (k : Nat) (hl : r'.live = sinsert k r.live)
    (hs : r'.listed = r.listed ∨ r'.listed = sinsert k r.listed) : Sound r' := by
  refine ⟨fun x hx => ?_, hl ▸ nodup_sinsert k _ h.liveNodup, ?_⟩
  · rw [hl, mem_sinsert]
    rcases hs with hs | hs <;> rw [hs] at hx
    · exact Or.inr (h.sub x hx)
    · exact ((mem_sinsert ..).mp hx).imp id (h.sub x)
  · rcases hs with hs | hs <;> rw [hs]
    · exact h.listedNodup
    · exact nodup_sinsert k _ h.listedNodup

theorem Sound.erase {r r' : Reg} (h : Sound r) (k : Nat) (hl : r'.live = r.live.erase k)
    (hs : r'.listed = r.listed.erase k) : Sound r' := by
  refine ⟨fun x hx => ?_, hl ▸ h.liveNodup.erase k, hs ▸ h.listedNodup.erase k⟩
  rw [hs, h.listedNodup.mem_erase_iff] at hx
  rw [hl, h.liveNodup.mem_erase_iff]
  exact ⟨hx.1, h.sub x hx.2⟩

/-- **`Delete` under any fault** (index read, index push or old-index deletion refused, GC
    skipped or not): afterwards the listing is again exactly the set of stored referrers. -/
theorem c14_flow_delete_consistent (skipGC : Bool) (f : Fault) (r : Reg) (k : Nat) (h : Consistent r) :
    Consistent (delete skipGC true true f r k).1 := by
  have e := delete_effect skipGC f r k
  split at e
  · rw [e]; exact h
  · refine .of_sound (h.sound.erase k e.1 e.2) fun x hx => ?_
    rw [e.1, h.liveNodup.mem_erase_iff] at hx
    rw [e.2, h.listedNodup.mem_erase_iff]
    exact ⟨hx.1, (h.same x).mpr hx.2⟩

/-- **`Push` without a fault, or with only the old-index deletion refused**: consistent again. -/
theorem c14_flow_push_consistent (skipGC : Bool) (f : Fault) (r : Reg) (k : Nat) (h : Consistent r)
    (hf : f = .none ∨ f = .idxDel) : Consistent (push skipGC true f r k).1 := by
  obtain ⟨el, es⟩ := push_effect skipGC f r k
  rw [if_neg (push_no_err skipGC f hf r k)] at es
  refine .of_sound (h.sound.insert k el (.inr es)) fun x hx => ?_
  rw [el, mem_sinsert] at hx
  rw [es, mem_sinsert]
  exact hx.imp id (h.same x).mpr

/-- **Under every fault, of `Push` or `Delete`, the listing never names a referrer that is
    not stored.** -/
theorem c14_flow_sound_step (skipGC : Bool) (r : Reg) (op : Op) (h : Sound r) :
    Sound (step skipGC true true r op).1 := by
  cases op with
  | delete k f =>
    have e := delete_effect skipGC f r k
    split at e
    · exact e.symm ▸ h
    · exact h.erase k e.1 e.2
  | push k f =>
    obtain ⟨el, es⟩ := push_effect skipGC f r k
    refine h.insert k el ?_
    split at es
    · exact .inl es
    · exact .inr es

theorem Consistent.empty : Consistent Reg.empty :=
  ⟨fun _ => ⟨nofun, nofun⟩, List.nodup_nil, List.nodup_nil⟩

theorem Sound.run {r : Reg} (h : Sound r) (skipGC : Bool) (ops : List Op) : Sound (run skipGC true true r ops) :=
  List.foldlRecOn (motive := Sound) ops _ h fun r h op _ => c14_flow_sound_step skipGC r op h

/-- ... hence after every history, whatever faults were injected. -/
theorem c14_flow_sound_run (skipGC : Bool) (ops : List Op) : Sound (run skipGC true true Reg.empty ops) :=
  Consistent.empty.sound.run skipGC ops

/-- A history in which no `Push` had its index read or index push refused (every other fault
    is allowed, on pushes and deletes). -/
def Accepted : List Op → Prop
  | [] => True
  | .push _ f :: rest => (f = .none ∨ f = .idxDel) ∧ Accepted rest
  | .delete _ _ :: rest => Accepted rest

theorem Consistent.run {r : Reg} (h : Consistent r) (skipGC : Bool) (ops : List Op) (ha : Accepted ops) :
    Consistent (run skipGC true true r ops) := by
  induction ops generalizing r with
  | nil => exact h
  | cons op rest ih =>
    cases op with
    | push k f => exact ih (c14_flow_push_consistent skipGC f r k h ha.1) ha.2
    | delete k f => exact ih (c14_flow_delete_consistent skipGC f r k h) ha

/-- **After every such history the listing is exactly the set of stored referrers, each
    once** - what a registry with the Referrers API would list. -/
theorem c14_flow_consistent_run (skipGC : Bool) (ops : List Op) (ha : Accepted ops) :
    Consistent (run skipGC true true Reg.empty ops) :=
  Consistent.empty.run skipGC ops ha

/-- **The clean-up error is reported after the update itself took effect**: a `Delete` that
    returns it has removed the referrer from the store and from the listing; a `Push` that
    returns it has stored and listed it. -/
theorem c14_flow_cleanup_after_effect (skipGC : Bool) (f : Fault) (r : Reg) (k : Nat) (h : Sound r) :
    ((delete skipGC true true f r k).2 = .cleanup →
        k ∉ (delete skipGC true true f r k).1.live ∧ k ∉ (delete skipGC true true f r k).1.listed) ∧
    ((push skipGC true f r k).2 = .cleanup →
        k ∈ (push skipGC true f r k).1.live ∧ k ∈ (push skipGC true f r k).1.listed) := by
  constructor
  · intro hc
    have e := delete_effect skipGC f r k
    rw [hc, if_neg nofun] at e
    rw [e.1, e.2, h.liveNodup.mem_erase_iff, h.listedNodup.mem_erase_iff]
    exact ⟨fun hh => hh.1 rfl, fun hh => hh.1 rfl⟩
  · intro hc
    obtain ⟨el, es⟩ := push_effect skipGC f r k
    rw [hc, if_neg nofun] at es
    rw [el, es, mem_sinsert, mem_sinsert]
    exact ⟨.inl rfl, .inl rfl⟩

/-- **Superseded indexes are deleted**: without faults and with referrers GC, no operation
    leaves a superseded index manifest behind. -/
theorem c14_flow_no_dangling (r : Reg) (k : Nat) :
    (push false true .none r k).1.dangling = r.dangling ∧ (delete false true true .none r k).1.dangling = r.dangling := by
  constructor
  · rw [push_eq]
    exact updateIndex_dangling _ _
  · unfold delete
    split
    · rfl
    · have hd := updateIndex_dangling r (.remove k)
      generalize updateIndex false true .none r (.remove k) = res at hd
      obtain ⟨r1, out⟩ := res
      cases out <;> exact hd

/-- F22, before the repair: `Delete` returned the clean-up error with the manifest still
    stored and no longer listed. -/
theorem c14_counterexample_delete_before_effect :
    let r : Reg := { live := [0, 1], tag := some [0, 1], dangling := 0 }
    (delete false true false .idxDel r 0).2 = .cleanup ∧
      0 ∈ (delete false true false .idxDel r 0).1.live ∧ 0 ∉ (delete false true false .idxDel r 0).1.listed := by
  decide

/-- F23, before the repair: removing the last referrer while the old index cannot be deleted
    left it listed although it is gone. -/
theorem c14_counterexample_last_referrer_stays_listed :
    let r : Reg := { live := [0], tag := some [0], dangling := 0 }
    (delete false false true .idxDel r 0).2 = .cleanup ∧
      0 ∉ (delete false false true .idxDel r 0).1.live ∧ 0 ∈ (delete false false true .idxDel r 0).1.listed := by
  decide

/-- Non-vacuity: a history with every kind of fault that ends consistent and non-empty. -/
example :
    let ops := [Op.push 0 .none, .push 1 .idxDel, .delete 0 .idxGet, .delete 0 .idxPut, .delete 0 .idxDel, .push 2 .none]
    Accepted ops ∧ (run false true true Reg.empty ops).live = [1, 2] ∧ (run false true true Reg.empty ops).listed = [1, 2] := by
  refine ⟨by simp [Accepted], by decide, by decide⟩

/-- **The source is the code the model describes**: `Delete` updates the index before it
    deletes the manifest and, on the clean-up error, deletes it all the same; `Push` stores the
    manifest before it updates the index; the update pushes the new index before it deletes
    the old one and, when that fails with nothing pushed, pushes one then. -/
theorem c14_flow_source_facts :
    Gen.refDeleteCalls = ["delete", "index", "delete", "delete"] ∧
    Gen.refDeleteOnIndexError = ["delete"] ∧ Gen.refDeleteTestsCleanupError = true ∧
    Gen.refPushCalls = ["push", "push", "index", "push"] ∧
    Gen.refUpdateCalls = ["read", "apply", "pushIndex", "pushIndex", "deleteOld", "pushIndex"] ∧
    Gen.refUpdateOnDeleteError = ["pushIndex"] :=
  ⟨rfl, rfl, rfl, rfl, rfl, rfl⟩

end Oras.Props.C14
